import MtblProps.Common
import MtblProps.C01
import MtblProofs.VerifyProofs
/-
  C12 — Checksums: a file produced by the writer always passes `mtbl_verify` and can be read completely with
  `verify_checksums` enabled.  If any one to three bits, or any burst of up to 32 bits, inside a block's stored
  bytes or its checksum field are altered, `mtbl_verify` never reports the file OK, and a reader with
  `verify_checksums` never returns an entry decoded from that block (the process stops instead).

  Models: `verifyTool` (MtblModel/Verify.lean = src/mtbl_verify.c), `readerOpen` / `getBlock` with `verify = true`
  (MtblModel/Reader.lean; outcome `none` / `.abort` = the `assert(block_crc == calc_crc)` stopped the process).
  Damage = xor masks `ep` (on the stored bytes) and `ef` (on the 4-byte checksum field) of ONE frame;
  `Verify.Detectable n ep ef` = at least one bit set, and (at most three bits set and `8n + 32 < 2^31 - 1`, i.e.
  blocks below 256 MiB) or (all set bits of `ep ++ ef` within 32 consecutive bit positions).
  The detection strength of the CRC itself is `C12_detect_weight` / `C12_detect_burst_any` (CrcDetectProofs).
-/
namespace Mtbl.C12

open FileEnc Verify

/-- the hypothesis bundle of `FileOK` contains what the `mtbl_verify` theorems need -/
theorem vhyp {f : EFile} {comp : Bytes → Bytes} {decomp : Nat → Bytes → Option Bytes}
    (h : FileOK f comp decomp) : VHyp f comp :=
  vhyp_of_legal f comp h.legal h.thr h.size h.indexRestarts h.v1

/-! ### 1. intact files pass `mtbl_verify` -/

/-- **C12 (intact, mtbl_verify), every well-formed file.**  For every legal encoding `f` (format v1 or v2, any
    restart points / prefix sharing / separators / block split / foreign prefix, compressed or not):
    `mtbl_verify` reports OK.  (The open with `verify_checksums` succeeds — the index checksum matches —, the trailer
    fields `count_data_blocks`, `bytes_data_blocks`, `index_block_offset` are exact, the sweep walks the data frames
    exactly and every block checksum matches.) -/
theorem C12_intact_verify (f : EFile) (comp : Bytes → Bytes) (decomp : Nat → Bytes → Option Bytes)
    (hf : FileOK f comp decomp) : verifyTool f.thr decomp (f.encode comp) = .ok :=
  Mtbl.C12_intact_verify f comp decomp (vhyp hf)

/-- **C12 (intact, mtbl_verify), writer output.**  The bytes the writer produced for strictly increasing adds (after
    any foreign prefix `pre`) pass `mtbl_verify`. -/
theorem C12_intact_writer (cfg : WCfg) (comp : Bytes → Bytes) (decomp : Nat → Bytes → Option Bytes)
    (hw : WriterOK cfg comp decomp) (pre : Bytes) (es : List Entry) (hs : StrictSorted es)
    (hz : SizesOK cfg comp pre es) :
    verifyTool cfg.thr decomp (pre ++ Writer.run cfg pre.length es) = .ok := by
  rw [W_refines_format cfg comp hw.comp_eq pre es hs]
  exact C12_intact_verify (canonFile cfg pre es) comp decomp (hw.fileOK hs hz)

/-- the same for an arbitrary add sequence (refused adds leave no trace) -/
theorem C12_intact_writer_any (cfg : WCfg) (comp : Bytes → Bytes) (decomp : Nat → Bytes → Option Bytes)
    (hw : WriterOK cfg comp decomp) (pre : Bytes) (adds : List Entry)
    (hz : SizesOK cfg comp pre (acceptedOf none adds)) :
    verifyTool cfg.thr decomp (pre ++ Writer.run cfg pre.length adds) = .ok := by
  show verifyTool cfg.thr decomp (pre ++ ((W.new cfg pre.length).addAll adds).2.finish) = .ok
  rw [W_refines_format_any cfg comp hw.comp_eq pre adds]
  exact C12_intact_verify (canonFile cfg pre _) comp decomp (hw.fileOK (C08_accepted_sorted adds) hz)

/-! ### 2. intact files are read completely with `verify_checksums` -/

/-- **C12 (intact, reader), writer output.**  With `verify_checksums` enabled the bytes the writer produced open, and
    iterating from the start returns exactly the entries added, in order, and then failure: no checksum assertion
    fires on the way.  (C01 at `verify := true`.) -/
theorem C12_intact_read (cfg : WCfg) (comp : Bytes → Bytes) (decomp : Nat → Bytes → Option Bytes)
    (hw : WriterOK cfg comp decomp) (pre : Bytes) (es : List Entry) (hs : StrictSorted es)
    (hz : SizesOK cfg comp pre es) :
    ∃ r, readerOpen true cfg.thr decomp true (pre ++ Writer.run cfg pre.length es) = .ok r ∧
      r.verify = true ∧
      ((es = [] ∧ readerIterInit true r none .iter = some none) ∨
       (∃ it₀, readerIterInit true r none .iter = some (some it₀) ∧
          rRun it₀ (List.replicate (es.length + 1) .next) = some (es.map some ++ [none]))) := by
  have hopen := (hw.fileOK hs hz).opens_explicit true
  rw [← W_refines_format cfg comp hw.comp_eq pre es hs] at hopen
  obtain ⟨h1, ok, hent⟩ := hopen
  have hent' := hent.trans (canonFile_entries cfg pre es)
  refine ⟨_, h1, rfl, ?_⟩
  rcases readerIterInit_spec ok none .iter with ⟨h0, _⟩ | ⟨it, h0, _, _⟩
  · exact Or.inl ⟨by rw [← hent']; exact C01_null ok h0, h0⟩
  · exact Or.inr ⟨it, h0, by rw [← hent']; exact C01_iterate ok h0⟩

/-- **C12 (intact, reader), every well-formed file**: with `verify_checksums` the file opens and full iteration
    returns exactly the encoded entries -/
theorem C12_intact_read_file (f : EFile) (comp : Bytes → Bytes) (decomp : Nat → Bytes → Option Bytes)
    (hf : FileOK f comp decomp) :
    readerOpen true f.thr decomp true (f.encode comp) = .ok (openedRd f comp decomp true) ∧
      ((f.entries = [] ∧ readerIterInit true (openedRd f comp decomp true) none .iter = some none) ∨
       (∃ it₀, readerIterInit true (openedRd f comp decomp true) none .iter = some (some it₀) ∧
          rRun it₀ (List.replicate (f.entries.length + 1) .next) = some (f.entries.map some ++ [none]))) := by
  obtain ⟨h1, ok, hent⟩ := hf.opens_explicit true
  refine ⟨h1, ?_⟩
  rcases ok.iterate with ⟨h0, h2⟩ | ⟨it, h0, _, h2⟩
  · exact Or.inl ⟨by rw [← hent]; exact h0, h2⟩
  · exact Or.inr ⟨it, h0, by rw [← hent]; exact h2⟩

/-! ### 3. the verifying reader stops on a damaged block -/

/-- **C12 (frame level).**  Whatever the file is: if the bytes at `off` are a v2 frame — `venc len`, a 4-byte checksum
    field, `len` stored bytes — whose checksum test fails, `get_block` of a reader with `verify_checksums` yields no
    block: the process stops on `assert(block_crc == calc_crc)`.  (v1 analogue: `getBlock_detects_v1`.) -/
theorem C12_getBlock_detects (r : Rd) (off len : Nat) (field' payload' rest : Bytes)
    (hv : r.verify = true) (hver : r.m.version = .v2) (hoff : off < r.data.length)
    (h : r.data.drop off = venc len ++ field' ++ payload' ++ rest)
    (hp : payload'.length = len) (hf : field'.length = 4) (h64 : len < 2^64)
    (hbad : blockVerifies payload' field' = false) :
    getBlock r off = none :=
  getBlock_detects r off len field' payload' rest hv hver hoff h hp hf h64 hbad

/-- **C12 (reader).**  Let `f` be any well-formed file (v1 or v2), `b` its data block `j` at file offset `off`, and
    `ep` / `ef` detectable error patterns on its stored bytes / checksum field.  For the damaged file
    `file' = damagedData f comp b off ef ep` (= `f.encode comp` with those bytes xor-ed, nothing else changed):
    * `file'` still opens with `verify_checksums` (index frame and trailer are untouched), giving the reader
      `damagedRd … file'` that differs from the reader of the intact file only in its bytes;
    * `get_block` at `off` stops the process — and with it every iterator operation that needs block `j`
      (`blockAtIndex_stops`, `rNext_stops`, `rSeek_stops`): no entry decoded from the damaged block is ever returned;
    * every other data block `i ≠ j` loads exactly as from the intact file. -/
theorem C12_reader_detects (f : EFile) (comp : Bytes → Bytes) (decomp : Nat → Bytes → Option Bytes)
    (hf : FileOK f comp decomp) (j : Nat) (b : EBlock) (off : Nat) (ef ep : Bytes)
    (hb : f.blocks[j]? = some b) (hoff : (offs f comp)[j]? = some off)
    (hep : ep.length = (stored f comp b).length) (hef : ef.length = 4)
    (hd : Detectable (stored f comp b).length ep ef) :
    (damagedData f comp b off ef ep).length = (f.encode comp).length ∧
    readerOpen true f.thr decomp true (damagedData f comp b off ef ep) =
      .ok (damagedRd f comp decomp (damagedData f comp b off ef ep)) ∧
    getBlock (damagedRd f comp decomp (damagedData f comp b off ef ep)) off = none ∧
    ∀ i bi offi, i ≠ j → f.blocks[i]? = some bi → (offs f comp)[i]? = some offi →
      getBlock (damagedRd f comp decomp (damagedData f comp b off ef ep)) offi = some (blkOf f.thr bi) := by
  obtain ⟨h1, h2, h3, h4⟩ := Mtbl.C12_reader_detects f comp decomp (vhyp hf) j b off ef ep hb hoff hep hef hd
  refine ⟨h1, h2, h3, ?_⟩
  intro i bi offi hij hbi hoi
  rw [h4 i offi hij hoi]
  obtain ⟨_, ok, _⟩ := hf.opens_explicit true
  have hi : i < (tview f comp).nb := by rw [tview_nb]; exact BlockEnc.lt_of_getElem? _ _ _ hbi
  have := ok.get_block i hi
  rwa [tview_off f comp i offi hoi, tview_blk f comp i bi hbi] at this

/-- the iterator-level reading of "the process stops instead": an index entry that points at the damaged block
    cannot be turned into a block -/
theorem C12_blockAtIndex_stops (f : EFile) (comp : Bytes → Bytes) (decomp : Nat → Bytes → Option Bytes)
    (hf : FileOK f comp decomp) (j : Nat) (b : EBlock) (off : Nat) (ef ep : Bytes)
    (hb : f.blocks[j]? = some b) (hoff : (offs f comp)[j]? = some off)
    (hep : ep.length = (stored f comp b).length) (hef : ef.length = 4)
    (hd : Detectable (stored f comp b).length ep ef) (idx : BI) (hi : idxOffset idx = some off) :
    blockAtIndex (damagedRd f comp decomp (damagedData f comp b off ef ep)) idx = none :=
  blockAtIndex_stops _ idx off hi (C12_reader_detects f comp decomp hf j b off ef ep hb hoff hep hef hd).2.2.1

/-! ### 4. damage in the index block stops the open -/

/-- **C12 (index block).**  The same kind of damage in the index frame: `mtbl_reader_init` with `verify_checksums`
    stops on the index checksum assertion; `mtbl_verify`, which opens the file that way, is stopped there and does
    not report OK. -/
theorem C12_index_detects (f : EFile) (comp : Bytes → Bytes) (decomp : Nat → Bytes → Option Bytes)
    (hf : FileOK f comp decomp) (ef ep : Bytes)
    (hep : ep.length = (idxStored f comp).length) (hef : ef.length = 4)
    (hd : Detectable (idxStored f comp).length ep ef) :
    readerOpen true f.thr decomp true (damagedIndex f comp ef ep) = .abort "index crc" ∧
    verifyTool f.thr decomp (damagedIndex f comp ef ep) = .abort ∧
    verifyTool f.thr decomp (damagedIndex f comp ef ep) ≠ .ok := by
  obtain ⟨h1, h2⟩ := Mtbl.C12_index_detects f comp decomp (vhyp hf) ef ep hep hef hd
  exact ⟨h1, h2, by rw [h2]; exact fun h => VRes.noConfusion h⟩

/-! ### 5. `mtbl_verify` never reports a damaged file OK -/

/-- **C12 (mtbl_verify, data block).**  With detectable damage in data block `j`, `mtbl_verify` reports FAILED:
    the sweep passes the intact blocks before `j` (their length prefixes are intact, so the offsets agree) and the
    checksum comparison fails at block `j`. -/
theorem C12_verify_detects (f : EFile) (comp : Bytes → Bytes) (decomp : Nat → Bytes → Option Bytes)
    (hf : FileOK f comp decomp) (j : Nat) (b : EBlock) (off : Nat) (ef ep : Bytes)
    (hb : f.blocks[j]? = some b) (hoff : (offs f comp)[j]? = some off)
    (hep : ep.length = (stored f comp b).length) (hef : ef.length = 4)
    (hd : Detectable (stored f comp b).length ep ef) :
    verifyTool f.thr decomp (damagedData f comp b off ef ep) = .failed ∧
    verifyTool f.thr decomp (damagedData f comp b off ef ep) ≠ .ok := by
  have h := Mtbl.C12_verify_detects f comp decomp (vhyp hf) j b off ef ep hb hoff hep hef hd
  exact ⟨h, by rw [h]; exact fun h => VRes.noConfusion h⟩

/-- **C12 for the writer's files**: the three detection statements for the bytes `pre ++ Writer.run cfg pre.length es`
    (`file`), whose block structure is that of `canonFile cfg pre es` (`W_refines_format`): damage in data block `j`
    makes `mtbl_verify` report FAILED and `get_block` stop; damage in the index block stops the open. -/
theorem C12_writer_detects (cfg : WCfg) (comp : Bytes → Bytes) (decomp : Nat → Bytes → Option Bytes)
    (hw : WriterOK cfg comp decomp) (pre : Bytes) (es : List Entry) (hs : StrictSorted es)
    (hz : SizesOK cfg comp pre es) (ef ep : Bytes) (hef : ef.length = 4) :
    let f := canonFile cfg pre es
    let file := pre ++ Writer.run cfg pre.length es
    (∀ (j : Nat) (b : EBlock) (off : Nat), f.blocks[j]? = some b → (offs f comp)[j]? = some off →
      ep.length = (stored f comp b).length → Detectable (stored f comp b).length ep ef →
      let file' := damageFrame file (off + vlen (stored f comp b).length) (stored f comp b).length ef ep
      verifyTool cfg.thr decomp file' = .failed ∧
      readerOpen true cfg.thr decomp true file' = .ok (damagedRd f comp decomp file') ∧
      getBlock (damagedRd f comp decomp file') off = none) ∧
    (ep.length = (idxStored f comp).length → Detectable (idxStored f comp).length ep ef →
      let file' := damageFrame file (indexOff f comp + vlen (idxStored f comp).length) (idxStored f comp).length ef ep
      readerOpen true cfg.thr decomp true file' = .abort "index crc" ∧
      verifyTool cfg.thr decomp file' = .abort) := by
  intro f file
  have hfile : file = f.encode comp := W_refines_format cfg comp hw.comp_eq pre es hs
  have hf : FileOK f comp decomp := hw.fileOK hs hz
  refine ⟨?_, ?_⟩
  · intro j b off hb hoff hep hd file'
    have e : file' = damagedData f comp b off ef ep := by
      show damageFrame file _ _ _ _ = _
      rw [hfile]; rfl
    rw [e]
    obtain ⟨_, h2, h3, _⟩ := C12_reader_detects f comp decomp hf j b off ef ep hb hoff hep hef hd
    exact ⟨(C12_verify_detects f comp decomp hf j b off ef ep hb hoff hep hef hd).1, h2, h3⟩
  · intro hep hd file'
    have e : file' = damagedIndex f comp ef ep := by
      show damageFrame file _ _ _ _ = _
      rw [hfile]; rfl
    rw [e]
    obtain ⟨h1, h2, _⟩ := C12_index_detects f comp decomp hf ef ep hep hef hd
    exact ⟨h1, h2⟩

/-! ### 6. non-vacuity: the two-block example file of FileEncProofs (v2, two foreign bytes; data frames at
    offsets 2 and 35, 28 and 23 stored bytes; index frame at 63 with 20 stored bytes; 600 bytes in all) -/

namespace Ex

def noDecomp : Nat → Bytes → Option Bytes := fun _ _ => none
def blk1 : EBlock := (exFile .v2).blocks.getD 1 default
/-- one flipped bit (bit 4 of byte 5) in the 23 stored bytes of block 1 -/
def ep1 : Bytes := List.replicate 5 0 ++ [0x10] ++ List.replicate 17 0
/-- one flipped bit (bit 2 of byte 2) in the 20 stored bytes of the index block -/
def epI : Bytes := [0, 0, 4] ++ List.replicate 17 0
def zero4 : Bytes := [0, 0, 0, 0]
/-- a 32-bit burst straddling the boundary stored bytes / checksum field (`ep ++ ef` is the error word) -/
def epB : Bytes := List.replicate 21 0 ++ [0xF0, 0xFF]
def efB : Bytes := [0xA5, 0x0F, 0, 0]
def bad1 : Bytes := damagedData (exFile .v2) id blk1 35 zero4 ep1
def badB : Bytes := damagedData (exFile .v2) id blk1 35 efB epB
def badI : Bytes := damagedIndex (exFile .v2) id zero4 epI

theorem off1 : (offs (exFile .v2) id)[1]? = some 35 := by decide +kernel
theorem get1 : (exFile .v2).blocks[1]? = some blk1 := by decide +kernel
theorem len1 : ep1.length = (stored (exFile .v2) id blk1).length := by decide +kernel
theorem lenB : epB.length = (stored (exFile .v2) id blk1).length := by decide +kernel
theorem lenI : epI.length = (idxStored (exFile .v2) id).length := by decide +kernel

/-- evaluation: the intact file is OK -/
example : verifyTool (exFile .v2).thr noDecomp ((exFile .v2).encode id) = .ok := by decide +kernel
example : verifyTool (exFile .v1).thr noDecomp ((exFile .v1).encode id) = .ok := by decide +kernel
/-- one flipped bit in block 1's stored bytes: `mtbl_verify` FAILED, `get_block` stops, block 0 still loads, the
    damaged file still opens -/
example : verifyTool (exFile .v2).thr noDecomp bad1 = .failed := by decide +kernel
example : (getBlock (damagedRd (exFile .v2) id noDecomp bad1) 35).isNone = true := by decide +kernel
example : (getBlock (damagedRd (exFile .v2) id noDecomp bad1) 2).isSome = true := by decide +kernel
example : (getBlock (openedRd (exFile .v2) id noDecomp true) 35).isSome = true := by decide +kernel
example : (match readerOpen true (exFile .v2).thr noDecomp true bad1 with | .ok _ => true | _ => false) = true := by
  decide +kernel
/-- without `verify_checksums` the same block is handed out (the detection is the checksum test, nothing else) -/
example : (getBlock { damagedRd (exFile .v2) id noDecomp bad1 with verify := false } 35).isSome = true := by
  decide +kernel
/-- the burst -/
example : verifyTool (exFile .v2).thr noDecomp badB = .failed := by decide +kernel
example : (getBlock (damagedRd (exFile .v2) id noDecomp badB) 35).isNone = true := by decide +kernel
/-- one flipped bit in the index block: the open stops -/
example : verifyTool (exFile .v2).thr noDecomp badI = .abort := by decide +kernel
example : (match readerOpen true (exFile .v2).thr noDecomp true badI with
    | .abort "index crc" => true | _ => false) = true := by decide +kernel

/-- the hypotheses of the general theorems are satisfiable: the same three facts as instances -/
theorem det1 : Detectable (stored (exFile .v2) id blk1).length ep1 zero4 :=
  ⟨by decide +kernel, Or.inl ⟨by decide +kernel, by decide +kernel⟩⟩

theorem detI : Detectable (idxStored (exFile .v2) id).length epI zero4 :=
  ⟨by decide +kernel, Or.inl ⟨by decide +kernel, by decide +kernel⟩⟩

/-- the burst instance: all set bits of `epB ++ efB` lie in bit positions 168 .. 199 -/
theorem detB : Detectable (stored (exFile .v2) id blk1).length epB efB :=
  ⟨by decide +kernel, Or.inr (burstWithin_of_bits (lo := 168) (by decide +kernel))⟩

example : verifyTool (exFile .v2).thr noDecomp badB = .failed :=
  (C12_verify_detects _ _ _ (exFile_ok .v2) 1 blk1 35 efB epB get1 off1 lenB rfl detB).1

example : verifyTool (exFile .v2).thr noDecomp ((exFile .v2).encode id) = .ok :=
  C12_intact_verify _ _ _ (exFile_ok .v2)

example : verifyTool (exFile .v2).thr noDecomp bad1 = .failed :=
  (C12_verify_detects _ _ _ (exFile_ok .v2) 1 blk1 35 zero4 ep1 get1 off1 len1 rfl det1).1

example : getBlock (damagedRd (exFile .v2) id noDecomp bad1) 35 = none :=
  (C12_reader_detects _ _ _ (exFile_ok .v2) 1 blk1 35 zero4 ep1 get1 off1 len1 rfl det1).2.2.1

example : verifyTool (exFile .v2).thr noDecomp badI = .abort :=
  (C12_index_detects _ _ _ (exFile_ok .v2) zero4 epI lenI rfl detI).2.1

/-- the writer's five-block example passes `mtbl_verify`, uncompressed and through the toy compressor -/
example : verifyTool WriterEx.cfg.thr (fun _ _ => none) ([0xAA, 0xBB] ++ Writer.run WriterEx.cfg 2 WriterEx.es) = .ok :=
  C12_intact_writer _ _ _ WriterEx.writerOK [0xAA, 0xBB] _ WriterEx.sorted WriterEx.sizesOK

example : verifyTool WriterEx.cfgZ.thr (fun _ s => some s.reverse)
    ([0xAA, 0xBB] ++ Writer.run WriterEx.cfgZ 2 WriterEx.es) = .ok :=
  C12_intact_writer _ _ _ WriterEx.writerOKZ [0xAA, 0xBB] _ WriterEx.sorted WriterEx.sizesOKZ

end Ex

end Mtbl.C12
