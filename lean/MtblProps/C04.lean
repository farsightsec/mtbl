import MtblProofs.MergerProofs
import MtblProofs.SourceProofs
import MtblProps.C01
/-
  C04 — Merger output is the sorted union of its sources, folded by the merge function.
  Sources are abstract cursors obeying the iterator contract (readers by C03, mergers, sorters, user sources).
  `c.fixF2 = true` is the repaired code (finding F2: the pinned code drops the entry with the empty key).
-/
namespace Mtbl.C04

/-- with a merge function whose calls succeed: every distinct key exactly once, ascending, and the value of each
    key is the fold of the merge function over ALL values the sources hold for it, each used exactly once (in some order) -/
theorem C04_merge (c : MCfg) (hF2 : c.fixF2 = true)
    (htot : ∀ a b, hle c a b = true ∨ hle c b a = true)
    (htrans : ∀ a b d, hle c a b = true → hle c b d = true → hle c a d = true)
    {f : Bytes → Bytes → Bytes → Option Bytes} (hm : c.merge = some f) (hok : ∀ k a b, f k a b ≠ none)
    (srcs : Array Src) (hs : ∀ s ∈ srcs.toList, Sorted s.es) (fuel : Nat)
    (hfuel : (srcs.toList.map fun s => s.es.length).sum + 1 ≤ fuel) :
    StrictSorted (mergerDrain c fuel (mergerInit c srcs)) ∧
    (∀ k, (∃ e ∈ mergerDrain c fuel (mergerInit c srcs), e.key = k) ↔
      (∃ e ∈ srcs.toList.flatMap Src.remaining, e.key = k)) ∧
    ∀ e ∈ mergerDrain c fuel (mergerInit c srcs),
      ∃ l, l.Perm (valuesOf e.key (srcs.toList.flatMap Src.remaining)) ∧ foldl1? f e.key l = some e.val := by
  obtain ⟨h1, h2, _⟩ := mergerInit_inv c htot htrans srcs hs
  have hl := h2.length_eq
  have := MergerProofs.length_flatMap_remaining_le srcs.toList
  obtain ⟨d1, d2, d3, d4⟩ := MergerProofs.drain_merge c hF2 htot htrans hm hok fuel _ h1 (by omega)
  refine ⟨d1, fun k => ⟨?_, ?_⟩, fun e he => ?_⟩
  · rintro ⟨e, he, rfl⟩
    obtain ⟨e', he', hk⟩ := d2 e he
    exact ⟨e', h2.mem_iff.mp he', hk⟩
  · rintro ⟨e', he', rfl⟩
    exact d3 e' (h2.mem_iff.mpr he')
  · obtain ⟨l, p1, p2⟩ := d4 e he
    exact ⟨l, p1.trans (MergerProofs.valuesOf_perm e.key h2), p2⟩

/-- without a merge function: every source entry is emitted (a permutation of the inputs), in ascending key order,
    and in (key, dupsort) order when the sources are sorted that way -/
theorem C04_nomerge (c : MCfg) (hF2 : c.fixF2 = true)
    (htot : ∀ a b, hle c a b = true ∨ hle c b a = true)
    (htrans : ∀ a b d, hle c a b = true → hle c b d = true → hle c a d = true)
    (hm : c.merge = none) (srcs : Array Src) (hs : ∀ s ∈ srcs.toList, Sorted s.es) (fuel : Nat)
    (hfuel : (srcs.toList.map fun s => s.es.length).sum + 1 ≤ fuel) :
    (mergerDrain c fuel (mergerInit c srcs)).Perm (srcs.toList.flatMap Src.remaining) ∧
    Sorted (mergerDrain c fuel (mergerInit c srcs)) ∧
    (DSrcs c srcs → DSorted c (mergerDrain c fuel (mergerInit c srcs))) := by
  obtain ⟨h1, h2, _, hd⟩ := mergerInit_inv c htot htrans srcs hs
  have hl := h2.length_eq
  have := MergerProofs.length_flatMap_remaining_le srcs.toList
  obtain ⟨h3, h4, h5⟩ := MergerProofs.drain_nomerge c hF2 htot htrans hm fuel _ h1 (by omega)
  exact ⟨h3.trans h2, h4, fun h => h5 (hd h)⟩

/-- mtbl_source_write on a merger with a merge function: every merged entry is accepted by the writer, the call reports
    success and the writer ends in the state of adding the merged content entry by entry — so the file it finishes is
    `Writer.run` of the merged content, which reads back as exactly that content (C01) -/
theorem C04_source_write (c : MCfg) (hF2 : c.fixF2 = true)
    (htot : ∀ a b, hle c a b = true ∨ hle c b a = true)
    (htrans : ∀ a b d, hle c a b = true → hle c b d = true → hle c a d = true)
    {f : Bytes → Bytes → Bytes → Option Bytes} (hm : c.merge = some f) (hok : ∀ k a b, f k a b ≠ none)
    (srcs : Array Src) (hs : ∀ s ∈ srcs.toList, Sorted s.es) (fuel : Nat)
    (hfuel : (srcs.toList.map fun s => s.es.length).sum + 1 ≤ fuel) (cfg : WCfg) (pre : Nat) :
    (W.new cfg pre).writeFrom (mergerDrain c fuel (mergerInit c srcs)) =
      (.success, ((W.new cfg pre).addAll (mergerDrain c fuel (mergerInit c srcs))).2) :=
  sourceWrite_sorted cfg pre _ (C04_merge c hF2 htot htrans hm hok srcs hs fuel hfuel).1

/-- … and for any source (e.g. a merger without a merge function that delivers a key twice): the copy stops at the first
    entry the writer refuses, reports failure, and the writer holds exactly the entries before it -/
theorem C04_source_write_stops (w : W) (pre : List Entry) (e : Entry) (rest : List Entry)
    (hp : ∀ r ∈ (w.addAll pre).1, r = Res.success) (he : ((w.addAll pre).2.add e.key e.val).1 = .failure) :
    w.writeFrom (pre ++ e :: rest) = (.failure, (w.addAll pre).2) := writeFrom_stops w pre e rest hp he

/-- the merge → write → read pipeline of `mtbl_merge` / `mtbl_source_write`: the merged content of a merger with a merge
    function, written entry by entry into a fresh writer (any configuration, any foreign prefix) and finished, opens and
    iterates back to exactly the merged content — C04_merge ∘ C04_source_write ∘ C01_roundtrip -/
theorem C04_merge_write_read (c : MCfg) (hF2 : c.fixF2 = true)
    (htot : ∀ a b, hle c a b = true ∨ hle c b a = true)
    (htrans : ∀ a b d, hle c a b = true → hle c b d = true → hle c a d = true)
    {f : Bytes → Bytes → Bytes → Option Bytes} (hm : c.merge = some f) (hok : ∀ k a b, f k a b ≠ none)
    (srcs : Array Src) (hs : ∀ s ∈ srcs.toList, Sorted s.es) (fuel : Nat)
    (hfuel : (srcs.toList.map fun s => s.es.length).sum + 1 ≤ fuel)
    (cfg : WCfg) (comp : Bytes → Bytes) (decomp : Nat → Bytes → Option Bytes) (hw : WriterOK cfg comp decomp)
    (pre : Bytes) (hz : SizesOK cfg comp pre (mergerDrain c fuel (mergerInit c srcs))) (verify : Bool) :
    let out := mergerDrain c fuel (mergerInit c srcs)
    let w := (W.new cfg pre.length).writeFrom out
    w.1 = .success ∧
    ∃ r, readerOpen true cfg.thr decomp verify (pre ++ w.2.finish) = .ok r ∧
      ((out = [] ∧ readerIterInit true r none .iter = some none) ∨
       (∃ it₀, readerIterInit true r none .iter = some (some it₀) ∧
          rRun it₀ (List.replicate (out.length + 1) .next) = some (out.map some ++ [none]))) := by
  intro out w
  have hsorted := (C04_merge c hF2 htot htrans hm hok srcs hs fuel hfuel).1
  have hw' : w = (.success, ((W.new cfg pre.length).addAll out).2) := sourceWrite_sorted cfg pre.length out hsorted
  refine ⟨by rw [hw'], ?_⟩
  have := Mtbl.C01.C01_roundtrip cfg comp decomp hw pre out hsorted hz verify
  rw [hw']
  exact this

/-- one call, with a merge function: exhausted, or the minimum key with all its values folded once each,
    or — if the callback reports failure while that key is being assembled — the call returns failure -/
theorem C04_step (c : MCfg) (hF2 : c.fixF2 = true)
    (htot : ∀ a b, hle c a b = true ∨ hle c b a = true)
    (htrans : ∀ a b d, hle c a b = true → hle c b d = true → hle c a d = true)
    {m : MIter} {f : Bytes → Bytes → Bytes → Option Bytes}
    (hi : MInv c m) (hm : c.merge = some f) (hfin : m.finished = false) :
    (∃ m', mergerNext c m = (.fail, m') ∧ pool m = [] ∧ m'.finished = true ∧ MInv c m') ∨
    (∃ k v m', mergerNext c m = (.ok k v, m') ∧ MInv c m' ∧
      ∃ grp : List Entry, grp ≠ [] ∧ (∀ e ∈ grp, e.key = k) ∧ (pool m).Perm (grp ++ pool m') ∧
        (∀ e ∈ pool m', bcmp k e.key = .lt) ∧
        ∃ l, l.Perm (grp.map (·.val)) ∧ foldl1? f k l = some v) ∨
    (∃ m', mergerNext c m = (.fail, m') ∧
      ∃ (k : Bytes) (pre : List Entry) (b : Entry) (rest : List Entry) (a' : Bytes),
        pre ≠ [] ∧ (∀ x ∈ pre, x.key = k) ∧ b.key = k ∧ (pool m).Perm (pre ++ b :: rest) ∧
        (∀ x ∈ pool m, bcmp k x.key ≠ .gt) ∧
        foldl1? f k (pre.map (·.val)) = some a' ∧ f k a' b.val = none) :=
  mergerNext_merge c hF2 htot htrans hi hm hfin

/-- the initial state satisfies the invariant and holds exactly what the sources deliver -/
theorem C04_init (c : MCfg)
    (htot : ∀ a b, hle c a b = true ∨ hle c b a = true)
    (htrans : ∀ a b d, hle c a b = true → hle c b d = true → hle c a d = true)
    (srcs : Array Src) (hs : ∀ s ∈ srcs.toList, Sorted s.es) :
    MInv c (mergerInit c srcs) ∧ (pool (mergerInit c srcs)).Perm (srcs.toList.flatMap Src.remaining) :=
  let h := mergerInit_inv c htot htrans srcs hs; ⟨h.1, h.2.1⟩

/-- the order hypotheses are satisfiable: without dupsort … -/
theorem C04_order_no_dupsort (c : MCfg) (h : c.dupsort = none) :
    (∀ a b, hle c a b = true ∨ hle c b a = true) ∧ (∀ a b d, hle c a b = true → hle c b d = true → hle c a d = true) :=
  ⟨hle_total_of_no_dupsort c h, hle_trans_of_no_dupsort c h⟩

/-- finding F2: with the pinned test (`cur_key` non-empty means "assembling") the entry with the empty key is dropped -/
theorem F2_witness :
    let srcs : Array Src := #[{ es := [⟨[], [118, 48]⟩, ⟨[97], [118, 49]⟩] }]
    let bad : MCfg := { merge := none, dupsort := none, fixF2 := false }
    let good : MCfg := { merge := none, dupsort := none, fixF2 := true }
    mergerDrain bad 5 (mergerInit bad srcs) = [⟨[97], [118, 49]⟩] ∧
    mergerDrain good 5 (mergerInit good srcs) = [⟨[], [118, 48]⟩, ⟨[97], [118, 49]⟩] := Mtbl.F2_witness

/-! the hypotheses are satisfiable -/
section
open MergerProofs

example :
    StrictSorted (mergerDrain catCfg 10 (mergerInit catCfg exSrcs)) ∧
    (∀ k, (∃ e ∈ mergerDrain catCfg 10 (mergerInit catCfg exSrcs), e.key = k) ↔
      (∃ e ∈ exSrcs.toList.flatMap Src.remaining, e.key = k)) ∧
    ∀ e ∈ mergerDrain catCfg 10 (mergerInit catCfg exSrcs),
      ∃ l, l.Perm (valuesOf e.key (exSrcs.toList.flatMap Src.remaining)) ∧
        foldl1? (fun _ a b => some (a ++ b)) e.key l = some e.val :=
  C04_merge catCfg rfl (hle_total_of_no_dupsort _ rfl) (hle_trans_of_no_dupsort _ rfl)
    rfl (fun _ _ _ => Option.some_ne_none _) exSrcs exSrcs_sorted 10 (by decide +kernel)

example :
    (mergerDrain noMergeCfg 10 (mergerInit noMergeCfg exSrcs)).Perm
      (exSrcs.toList.flatMap Src.remaining) ∧
    Sorted (mergerDrain noMergeCfg 10 (mergerInit noMergeCfg exSrcs)) :=
  let h := C04_nomerge noMergeCfg rfl (hle_total_of_no_dupsort _ rfl)
    (hle_trans_of_no_dupsort _ rfl) rfl exSrcs exSrcs_sorted 10 (by decide +kernel)
  ⟨h.1, h.2.1⟩

end

end Mtbl.C04
