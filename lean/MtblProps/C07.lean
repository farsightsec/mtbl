import MtblProofs.FilesetProofs
/-
  C07 — A fileset source shows the setfile as of the most recent reload; reloads happen when asked for
  (reload_now, interval) but never while an iterator on the shared fileset is open; iterators keep their
  snapshot; every handle made by dup stays valid and current.

  Model: MtblModel/Fileset.lean (mtbl/fileset.c + libmy/my_fileset.c).  Helper lemmas: MtblProofs/FilesetProofs.lean.
  All history theorems quantify over EVERY finite history `ops` from `init w cfg` (any number of handles via
  `dup`, any interleaving) and are about the repaired `reload_now` (`run true`), except where stated.

  Well-formedness (`Fs.WF s ops`, decidable, checked step by step by `Fs.OpOk`):
    reload / reloadNow / openIter h : handle h exists and is alive
    useIter / closeIter j           : iterator j exists and is open
    dup                             : some handle is alive
    destroy h                       : h alive and none of ITS iterators is open
    editSetfile lines               : lines.Nodup
  `Fs.GoodWorld w` : the clock never reads the zero timespec (`0 < w.tick`) and the initial setfile has no
    repeated line — needed for (3)/(4) only; both are necessary there (see the `example`s at the end).
  `Fs.WFfiles`     : putFile never replaces a path that currently is an entry — needed only for `C07_faithful`.
-/
namespace Mtbl.C07
open Mtbl.Fs

/-- (1) A reload (my_fileset_reload, which may destroy readers) is never performed while any iterator on the
    shared fileset is open — for ALL histories, well-formed or not, and for both variants of reload_now. -/
theorem C07_no_reload_while_open (w : World) (cfg : HCfg) (ops : List Op) :
    (run true (init w cfg) ops).reloadsWithIters = 0 := Fs.C07_no_reload_while_open w cfg ops

theorem C07_no_reload_while_open_any (fixF3 : Bool) (w : World) (cfg : HCfg) (ops : List Op) :
    (run fixF3 (init w cfg) ops).reloadsWithIters = 0 := (Frame_run fixF3 _ ops).rwi

/-- (2) With the repaired reload_now no well-formed history ever uses a freed reader or a destroyed merger:
    every handle made by dup stays valid across reloads triggered through any other handle. -/
theorem C07_no_uaf (w : World) (cfg : HCfg) (ops : List Op) (hwf : WF (init w cfg) ops) :
    (run true (init w cfg) ops).uaf = false := (Inv_run (Inv_init w cfg) hwf).uaf

/-- (3) Immediately after the reload check that begins every source operation, the handle's merger holds exactly
    the readers fs_reinit_merger would put there now: those of the current entries that pass the handle's
    filters, in table order (`Fs.srcs`, spelled out by `C07_sources_mem`). -/
theorem C07_current (w : World) (cfg : HCfg) (ops : List Op) (hw : GoodWorld w) (hwf : WF (init w cfg) ops)
    (i : Nat) (h : Handle) (hget : (reload (run true (init w cfg) ops) i).handles[i]? = some h) (ha : h.alive = true) :
    h.sources = srcs (reload (run true (init w cfg) ops) i).sh h.cfg := Fs.C07_current w cfg ops hw hwf i h hget ha

/-- … hence a new iterator pins exactly those readers: `openIter` is "reload check, then append an iterator
    over `srcs` of the resulting table under the handle's own filters". -/
theorem C07_current_iter (w : World) (cfg : HCfg) (ops : List Op) (hw : GoodWorld w) (hwf : WF (init w cfg) ops)
    (i : Nat) (h0 : Handle) (hget0 : (run true (init w cfg) ops).handles[i]? = some h0) (ha0 : h0.alive = true) :
    ∃ h, (reload (run true (init w cfg) ops) i).handles[i]? = some h ∧ h.cfg = h0.cfg ∧
      openIter (run true (init w cfg) ops) i =
        { reload (run true (init w cfg) ops) i with
            sh := { (reload (run true (init w cfg) ops) i).sh with
                      nIters := (reload (run true (init w cfg) ops) i).sh.nIters + 1 },
            iters := (run true (init w cfg) ops).iters ++
              [{ handle := i, readers := srcs (reload (run true (init w cfg) ops) i).sh h0.cfg, mergerGen := h.mergerGen }] } :=
  openIter_current (Inv_run (Inv_init w cfg) hwf) (Cur_run (Inv_init w cfg) (Cur_init w cfg hw.1 hw.2) hwf) hget0 ha0

/-- what `srcs` contains: the readers of entries whose name passes the name filter and whose table passes the
    reader filter -/
theorem C07_sources_mem (sh : Shared) (cfg : HCfg) (r : Nat) :
    r ∈ srcs sh cfg ↔ ∃ e ∈ sh.entries, e.reader = some r ∧ cfg.nameFilter e.name = true ∧
      ∀ tid, tableOf sh.loaded r = some tid → cfg.tableFilter tid = true := Fs.mem_srcs_iff

/-- (4) The entry table is always sorted by name without repetition, and every step of a well-formed history
    either leaves the table and the remembered setfile stamp alone, or is a reload that observed a changed stamp
    and then the table lists exactly the setfile lines whose path exists at that moment (`Fs.IsView`), or it
    destroys the last handle. -/
theorem C07_view (w : World) (cfg : HCfg) (ops : List Op) (op : Op) (hw : GoodWorld w)
    (hwf : WF (init w cfg) (ops ++ [op])) :
    NameSorted (run true (init w cfg) ops).sh.entries ∧
    ViewStep (run true (init w cfg) ops) (run true (init w cfg) (ops ++ [op])) := Fs.C07_view w cfg ops op hw hwf

/-- (4) the single reload: when my_fileset_reload sees a new stamp, the new table is the sorted list of the
    setfile lines that exist -/
theorem C07_view_reload (w : World) (sh : Shared) (hi : ShInv sh) (hs : sh.lastStamp ≠ w.setStamp)
    (hl : w.setLines.Nodup) :
    NameSorted (myReload w sh).2.2.entries ∧
    ∀ n, n ∈ (myReload w sh).2.2.entries.map (·.name) ↔ n ∈ w.setLines ∧ pathExists w n = true :=
  Fs.myReload_view w sh hs hl

/-- (4) readers and files: if no listed path is replaced by another file, then an entry whose path holds table
    `tid` has a live reader on exactly that table, and an entry whose path is not a table has the NULL reader —
    which by `C07_sources_mem` is never among the sources of any merger. -/
theorem C07_faithful (w : World) (cfg : HCfg) (ops : List Op) (hwf : WF (init w cfg) ops)
    (hwff : WFfiles (init w cfg) ops) (e : FEntry) (he : e ∈ (run true (init w cfg) ops).sh.entries)
    (p : String) (kind : FileKind)
    (hk : (run true (init w cfg) ops).w.files.find? (·.1 == e.name) = some (p, kind)) :
    match kind with
    | .table tid => ∃ r, e.reader = some r ∧ tableOf (run true (init w cfg) ops).sh.loaded r = some tid
    | .notTable => e.reader = none := by
  have := (FInv_run (Inv_init w cfg) (FInv_init w cfg) hwf hwff).table he hk
  cases kind <;> exact this

/-- (5a) reload_now with no iterator open reloads at once: one more reload, the setfile stamp is the current
    one, the request flag is clear, the reload time is now. -/
theorem C07_now (s : St) (i : Nat) (h0 : Handle) (hget : s.handles[i]? = some h0) (hn : s.sh.nIters = 0) :
    (reloadNow true s i).reloads = s.reloads + 1 ∧ (reloadNow true s i).sh.lastStamp = s.w.setStamp ∧
    (reloadNow true s i).sh.reloadNeeded = false ∧ (reloadNow true s i).sh.fsLast = (s.w.sec, s.w.tick) :=
  Fs.reloadNow_reloads hget hn

/-- (5b) with an iterator open it only records the request … -/
theorem C07_now_busy (s : St) (i : Nat) (h0 : Handle) (hget : s.handles[i]? = some h0) (hn : s.sh.nIters > 0) :
    reloadNow true s i = { s with sh := { s.sh with reloadNeeded := true } } := Fs.reloadNow_busy hget hn

/-- (5c) … and a recorded request makes the next reload check with no iterator open reload, through ANY existing
    handle and regardless of its interval (even NEVER) … -/
theorem C07_now_pending (s : St) (j : Nat) (h : Handle) (hget : s.handles[j]? = some h)
    (hp : s.sh.reloadNeeded = true) (hn : s.sh.nIters = 0) : Reloaded s (reload s j) := reload_reloads hget hn (.inl hp)

/-- (5d) … the request cannot get lost: after a refused reload_now, along ANY continuation, as long as no reload
    has been performed the first reload check with no iterator open performs one. -/
theorem C07_now_deferred (s : St) (i : Nat) (h0 : Handle) (hget : s.handles[i]? = some h0) (hn : s.sh.nIters > 0)
    (ops : List Op) (hsame : (run true (reloadNow true s i) ops).reloads = s.reloads)
    (j : Nat) (hj : Handle) (hgetj : (run true (reloadNow true s i) ops).handles[j]? = some hj)
    (h0' : (run true (reloadNow true s i) ops).sh.nIters = 0) :
    Reloaded (run true (reloadNow true s i) ops) (reload (run true (reloadNow true s i) ops) j) :=
  reload_reloads hgetj h0' (.inl (pending_persists ops (by rw [reloadNow_busy hget hn])
    (by rw [hsame, reloadNow_busy hget hn])))

/-- (5e) in particular destroying the last open iterator performs the pending reload itself. -/
theorem C07_now_on_last_close (w : World) (cfg : HCfg) (ops : List Op) (hwf : WF (init w cfg) ops) (j : Nat)
    (ho : iOpen (run true (init w cfg) ops) j = true) (h1 : (run true (init w cfg) ops).sh.nIters = 1)
    (hp : (run true (init w cfg) ops).sh.reloadNeeded = true) :
    (closeIter (run true (init w cfg) ops) j).reloads = (run true (init w cfg) ops).reloads + 1 ∧
    (closeIter (run true (init w cfg) ops) j).sh.lastStamp = (run true (init w cfg) ops).w.setStamp ∧
    (closeIter (run true (init w cfg) ops) j).sh.reloadNeeded = false :=
  Fs.closeIter_last_reloads (Inv_run (Inv_init w cfg) hwf) ho h1 hp

/-- (6) The interval rule: no iterator open, interval not NEVER, more than `interval` seconds since the last
    reload ⇒ the reload check reloads. -/
theorem C07_interval (s : St) (i : Nat) (h : Handle) (hget : s.handles[i]? = some h) (hn : s.sh.nIters = 0)
    (hnever : h.cfg.interval ≠ NEVER) (hint : s.w.sec - s.sh.fsLast.1 > h.cfg.interval) : Reloaded s (reload s i) :=
  reload_reloads hget hn (.inr ⟨hnever, hint⟩)

/-- Iterators opened earlier keep their snapshot: the pinned readers never change, and while the iterator is
    open all of them stay live and its merger object stays the one it was created from. -/
theorem C07_snapshot (w : World) (cfg : HCfg) (ops1 ops2 : List Op) (hwf : WF (init w cfg) (ops1 ++ ops2))
    (j : Nat) (it : Iter) (hj : (run true (init w cfg) ops1).iters[j]? = some it) :
    ∃ it', (run true (init w cfg) (ops1 ++ ops2)).iters[j]? = some it' ∧ it'.readers = it.readers ∧
      (it'.isOpen = true →
        (∀ r ∈ it.readers, LiveIn (run true (init w cfg) (ops1 ++ ops2)).sh.loaded r) ∧
        ∃ h, (run true (init w cfg) (ops1 ++ ops2)).handles[it.handle]? = some h ∧ h.alive = true ∧
          h.mergerGen = it.mergerGen) := by
  rw [run_append]
  exact snapshot ops2 (by rw [← run_append]; exact Inv_run (Inv_init w cfg) hwf) hj

/-- (7) F3: the pinned reload_now stamps a handle "current" without rebuilding its out-of-date merger; the next
    iterator then reads through a destroyed reader.  The same (well-formed) history is safe with the repair. -/
theorem F3_witness :
    (run false (init {} {}) f3hist).uaf = true ∧ (run true (init {} {}) f3hist).uaf = false ∧
    WF (init {} {}) f3hist ∧ WFx false (init {} {}) f3hist :=
  ⟨F3_witness_pinned, F3_witness_fixed, F3_witness_wf, F3_witness_wf_pinned⟩

example : f3hist =
    [.putFile "a" (.table 0), .putFile "b" (.table 1), .editSetfile ["a", "b"], .openIter 0, .closeIter 0, .dup {},
     .openIter 1, .closeIter 1, .editSetfile ["a"], .reloadNow 1, .reloadNow 0, .openIter 0, .useIter 2] := rfl

/-! non-vacuity / necessity of the side conditions of (3) -/

/-- a clock reading (0,0) at the first reload makes a later dup look current with an empty merger -/
example :
    let s := run true (init { sec := 0, tick := 0 } {})
      [.putFile "a" (.table 0), .editSetfile ["a"], .reload 0, .dup {}, .openIter 1]
    s.iters.map (·.readers) = [[]] ∧ srcs s.sh {} = [0] := by decide +kernel

/-- a repeated setfile line changes the table without "loading" or "unloading" anything, so the merger is not rebuilt -/
example :
    let s := run true (init {} {})
      [.putFile "a" (.table 0), .editSetfile ["a"], .openIter 0, .closeIter 0, .editSetfile ["a", "a"], .reloadNow 0]
    (s.handles.map (·.sources)) = [[0]] ∧ srcs s.sh {} = [0, 0] := by decide +kernel

end Mtbl.C07
