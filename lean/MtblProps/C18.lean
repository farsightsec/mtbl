import MtblProofs.ResProofs
/-
  C18 — Destroying all objects releases every descriptor, mapping, temp file, allocation.

  Machine: MtblModel/Res.lean — the resource effects of the API calls as the code performs them (writers: one
  descriptor; readers: one mapping, none when the file is not a table; mergers, iterators, pools: heap only; sorters: one
  mapping per spilled chunk, plus whatever `_mtbl_sorter_write_chunk` fails to release; filesets: the shared set's
  loaded readers, reference-counted across `dup`, reloaded only with no iterator open; merger iterators pin every
  fileset below them).  Requests are ARBITRARY: an ill-formed request (unknown slot, slot in use, wrong kind) is a no-op,
  so "every finite history" needs no well-formedness hypothesis.

  Heap is counted in abstract units and tied to the real process only at the end of a history (zero / not zero);
  descriptors, mappings and temp files are compared after every request (correspondence family `res`).
-/
namespace Res.C18

/-- the ledger always equals what the live objects and live shared filesets hold, plus what was leaked for good -/
theorem C18_invariant (ops : List Op) : (run {} ops).ledger = total (run {} ops) :=
  inv_run (inv_init true true) ops

/-- C18 (repaired sorter): whatever the history, once every object has been destroyed the process holds no additional
    descriptor, mapping, temp file or heap object -/
theorem C18_balanced (ops : List Op) (hf : freshSorters ops) (hall : allFree (run {} ops) = true) :
    (run {} ops).ledger = 0 := by
  have h := C18_invariant ops
  rw [total_of_allFree hall] at h
  rw [h]
  exact (clean_run clean_init ops hf).leaked

/-- with any combination of the two repairs (in particular the pinned code): what is left when everything is destroyed is
    exactly what the sorter's chunk code leaked -/
theorem C18_balanced_pinned_partial (f6 f10 : Bool) (ops : List Op)
    (hall : allFree (run { fixF6 := f6, fixF10 := f10 } ops) = true) :
    (run { fixF6 := f6, fixF10 := f10 } ops).ledger = (run { fixF6 := f6, fixF10 := f10 } ops).leaked := by
  rw [← total_of_allFree hall]
  exact inv_run (inv_init f6 f10) ops

/-- nothing is ever written off as leaked by the repaired code -/
theorem C18_no_leak (ops : List Op) (hf : freshSorters ops) : (run {} ops).leaked = 0 :=
  (clean_run clean_init ops hf).leaked

/-- finding F6 in the machine: one spilled chunk, sorter destroyed — the pinned code keeps a descriptor -/
def f6History : List Op :=
  [.sorter 0 { limit := 64 }, .sadd 0 3 30, .sadd 0 1 30, .destroy 0]
theorem F6_witness : allFree (run { fixF6 := false, fixF10 := false } f6History) = true ∧
    (run { fixF6 := false, fixF10 := false } f6History).ledger.fds = 1 ∧
    (run {} f6History).ledger = 0 := by decide

/-- finding F10 in the machine: the merge callback fails inside a chunk -/
def f10History : List Op :=
  [.sorter 0 { limit := 100, failKey := some 1 }, .sadd 0 1 30, .sadd 0 1 30, .destroy 0]
theorem F10_witness : allFree (run { fixF6 := true, fixF10 := false } f10History) = true ∧
    (run { fixF6 := true, fixF10 := false } f10History).ledger = { fds := 1, heap := 1 } ∧
    (run {} f10History).ledger = 0 := by decide

/-- non-vacuity: a history over every kind of object, ending with everything destroyed; in the middle the ledger is not
    zero -/
def exHistory : List Op :=
  [.table 1 20, .table 2 20, .bad 3, .setfile 0 [1, 2, 3],
   .reader 0 1, .reader 1 3, .merger 2 [0], .fileset 3 0, .fsdup 4 3, .merger 5 [3, 2],
   .iter 6 5, .use 6, .pool 7, .sorter 8 { limit := 64, pooled := true }, .sadd 8 1 30, .sadd 8 2 30, .siter 9 8,
   .writer 10 false, .wadd 10,
   .destroy 6, .destroy 9, .destroy 8, .destroy 7, .destroy 5, .destroy 2, .destroy 4, .destroy 3,
   .destroy 1, .destroy 0, .destroy 10]
example : freshSorters exHistory := by
  intro op hop i ss h
  subst h
  simp only [exHistory, List.mem_cons, List.mem_nil_iff, or_false, reduceCtorEq, false_or,
    Op.sorter.injEq] at hop
  obtain ⟨_, rfl⟩ := hop
  exact ⟨rfl, rfl⟩
example : allFree (run {} exHistory) = true := by decide +kernel
example : (run {} (exHistory.take 17)).ledger = { fds := 0, maps := 4, tmp := 0, heap := 10 } := by decide +kernel

end Res.C18
