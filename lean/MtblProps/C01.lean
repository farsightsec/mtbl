import MtblProps.Common
import MtblProofs.ToolsProofs
/-
  C01 — What is written is what is read: a table written from strictly increasing adds, opened and iterated
  from the start, returns exactly the entries added, in order, then failure.   (R ∘ E ∘ W)
-/
namespace Mtbl.C01

/-- **C01.**  For every writer configuration (any compression type whose codec round-trips, any block size, any
    restart interval ≥ 1), every foreign prefix `pre` already in the file, every strictly increasing list of
    entries `es` (keys and values shorter than 4 GiB, F11) and with or without checksum verification:
    the bytes the writer produced open, and iterating from the start returns exactly `es`, in order, and then
    failure.  Only for the empty table the reader hands out a NULL iterator (which the C wrapper treats as an
    iterator that always fails). -/
theorem C01_roundtrip (cfg : WCfg) (comp : Bytes → Bytes) (decomp : Nat → Bytes → Option Bytes)
    (hw : WriterOK cfg comp decomp) (pre : Bytes) (es : List Entry) (hs : StrictSorted es)
    (hz : SizesOK cfg comp pre es) (verify : Bool) :
    ∃ r, readerOpen true cfg.thr decomp verify (pre ++ Writer.run cfg pre.length es) = .ok r ∧
      ((es = [] ∧ readerIterInit true r none .iter = some none) ∨
       (∃ it₀, readerIterInit true r none .iter = some (some it₀) ∧
          rRun it₀ (List.replicate (es.length + 1) .next) = some (es.map some ++ [none]))) := by
  obtain ⟨r, t, hopen, ok, hent⟩ := hw.opens hs hz verify
  exact ⟨r, hopen, hent ▸ ok.iterate.imp_right fun ⟨it, h0, _, hN⟩ => ⟨it, h0, hN⟩⟩

/-- **C01**, any number of `next` calls: `m` calls return the first `m` entries added, padded with failures -/
theorem C01_roundtrip_m (cfg : WCfg) (comp : Bytes → Bytes) (decomp : Nat → Bytes → Option Bytes)
    (hw : WriterOK cfg comp decomp) (pre : Bytes) (es : List Entry) (hs : StrictSorted es)
    (hz : SizesOK cfg comp pre es) (verify : Bool) :
    ∃ r, readerOpen true cfg.thr decomp verify (pre ++ Writer.run cfg pre.length es) = .ok r ∧
      ((es = [] ∧ readerIterInit true r none .iter = some none) ∨
       (∃ it₀, readerIterInit true r none .iter = some (some it₀) ∧
          ∀ m, rRun it₀ (List.replicate m .next) = some (RI.drainOut es m))) := by
  obtain ⟨r, t, hopen, ok, hent⟩ := hw.opens hs hz verify
  exact ⟨r, hopen, hent ▸ ok.iterate.imp_right fun ⟨it, h0, hm, _⟩ => ⟨it, h0, hm⟩⟩

/-- **C01 for arbitrary add sequences** (unsorted, repeated keys): what is read back is exactly the subsequence
    the writer accepted, `acceptedOf none adds` = the adds whose key is strictly greater than the last accepted
    key (C08); refused adds leave no trace in the file. -/
theorem C01_roundtrip_any (cfg : WCfg) (comp : Bytes → Bytes) (decomp : Nat → Bytes → Option Bytes)
    (hw : WriterOK cfg comp decomp) (pre : Bytes) (adds : List Entry)
    (hz : SizesOK cfg comp pre (acceptedOf none adds)) (verify : Bool) :
    ∃ r, readerOpen true cfg.thr decomp verify (pre ++ Writer.run cfg pre.length adds) = .ok r ∧
      ((acceptedOf none adds = [] ∧ readerIterInit true r none .iter = some none) ∨
       (∃ it₀, readerIterInit true r none .iter = some (some it₀) ∧
          rRun it₀ (List.replicate ((acceptedOf none adds).length + 1) .next) =
            some ((acceptedOf none adds).map some ++ [none]))) := by
  obtain ⟨r, t, hopen, ok, hent⟩ := hw.opens_any adds hz verify
  exact ⟨r, hopen, hent ▸ ok.iterate.imp_right fun ⟨it, h0, _, hN⟩ => ⟨it, h0, hN⟩⟩


/-- **C01, mtbl_dump.**  The tool opens the file (no checksum verification) and runs `while (mtbl_iter_next(…))` on a
    whole-table iterator.  For every option set `o` (-s, -x, -k, -v, -K, -V) what it prints is `dumpSpec o es`: one line per
    entry of the matching subsequence of what was added, in order (`Tools.dumpPred_iff` says what "matching" is,
    `Tools.dumpSpec_sublist` that it is a subsequence, `Tools.dumpSpec_default` that without options it is everything).
    `m` is the number of `next` calls the loop gets to make; any `m > es.length` gives the same output, i.e. the loop
    stops at the first failure, which comes right after the last entry. -/
theorem C01_dump (cfg : WCfg) (comp : Bytes → Bytes) (decomp : Nat → Bytes → Option Bytes)
    (hw : WriterOK cfg comp decomp) (pre : Bytes) (es : List Entry) (hs : StrictSorted es)
    (hz : SizesOK cfg comp pre es) (o : Tools.DumpOpts) :
    ∃ r, readerOpen true cfg.thr decomp false (pre ++ Writer.run cfg pre.length es) = .ok r ∧
      ((es = [] ∧ readerIterInit true r none .iter = some none ∧ Tools.dumpSpec o es = []) ∨
       (∃ it₀, readerIterInit true r none .iter = some (some it₀) ∧
          ∀ m, es.length < m →
            (rRun it₀ (List.replicate m .next)).map (Tools.dumpOfRun o) = some (Tools.dumpSpec o es))) := by
  obtain ⟨r, hopen, h⟩ := C01_roundtrip_m cfg comp decomp hw pre es hs hz false
  refine ⟨r, hopen, ?_⟩
  rcases h with ⟨he, h0⟩ | ⟨it₀, h0, hrun⟩
  · exact Or.inl ⟨he, h0, by subst he; simp [Tools.dumpSpec]⟩
  · exact Or.inr ⟨it₀, h0, fun m hm => by rw [hrun m]; simp [Tools.dumpOfRun_drainOut o es hm]⟩

/-- the dump of the five-block example with `-x -k 01`: exactly the entries whose key starts with byte 01 -/
example : Tools.dumpSpec { hex := true, kpre := some [1] } WriterEx.es =
    ((WriterEx.es.filter fun e => e.key.take 1 == [1]).map (Tools.dumpLine { hex := true })) := by decide +kernel
example : Tools.dumpLine { hex := true } ⟨[0x61, 0xff], []⟩ = "00000002:61-ff 00000000:" ∧
    Tools.dumpLine {} ⟨[0x61, 0x22, 0x0a], [0x7e, 0x7f]⟩ = "\"a\\\"\\x0a\" \"~\\x7f\"" := by decide +kernel

/-- the writer itself never stops on an assertion while producing those bytes -/
theorem C01_writer_no_abort (cfg : WCfg) (comp : Bytes → Bytes) (decomp : Nat → Bytes → Option Bytes)
    (hw : WriterOK cfg comp decomp) (pre : Nat) (adds : List Entry) :
    ((W.new cfg pre).addAll adds).2.aborted = false :=
  W_no_abort cfg comp hw.comp_eq pre adds

/-! ### non-vacuity: the five-block example (empty key, a value larger than a block, two foreign bytes),
    uncompressed and through the toy compressor -/

example (verify : Bool) :
    ∃ r, readerOpen true WriterEx.cfg.thr (fun _ _ => none) verify ([0xAA, 0xBB] ++ Writer.run WriterEx.cfg 2 WriterEx.es)
        = .ok r ∧
      ((WriterEx.es = [] ∧ readerIterInit true r none .iter = some none) ∨
       (∃ it₀, readerIterInit true r none .iter = some (some it₀) ∧
          rRun it₀ (List.replicate (WriterEx.es.length + 1) .next) = some (WriterEx.es.map some ++ [none]))) :=
  C01_roundtrip _ _ _ WriterEx.writerOK [0xAA, 0xBB] _ WriterEx.sorted WriterEx.sizesOK verify

example (verify : Bool) :
    ∃ r, readerOpen true WriterEx.cfgZ.thr (fun _ s => some s.reverse) verify
        ([0xAA, 0xBB] ++ Writer.run WriterEx.cfgZ 2 WriterEx.es) = .ok r ∧
      ((WriterEx.es = [] ∧ readerIterInit true r none .iter = some none) ∨
       (∃ it₀, readerIterInit true r none .iter = some (some it₀) ∧
          rRun it₀ (List.replicate (WriterEx.es.length + 1) .next) = some (WriterEx.es.map some ++ [none]))) :=
  C01_roundtrip _ _ _ WriterEx.writerOKZ [0xAA, 0xBB] _ WriterEx.sorted WriterEx.sizesOKZ verify

/-- an add sequence with refused adds: two of the six are dropped -/
example : acceptedOf none [⟨[1], []⟩, ⟨[1], [7]⟩, ⟨[0, 255], []⟩, ⟨[1, 0], []⟩, ⟨[0x80], []⟩, ⟨[0x80, 0], [1]⟩] =
    [⟨[1], []⟩, ⟨[1, 0], []⟩, ⟨[0x80], []⟩, ⟨[0x80, 0], [1]⟩] := by decide +kernel

/-- the adds of the five-block example offered out of order: the two refused adds (`⟨[], [5]⟩` repeats the empty key,
    `⟨[0], [4]⟩` goes backwards) leave no trace, and exactly the seven accepted entries are read back -/
def exAdds : List Entry := [⟨[], [1]⟩, ⟨[], [5]⟩, ⟨[1], [2, 3]⟩, ⟨[0], [4]⟩] ++ WriterEx.es.drop 2

theorem exAdds_accepted : acceptedOf none exAdds = WriterEx.es := by decide +kernel

example (verify : Bool) :
    ∃ r, readerOpen true WriterEx.cfg.thr (fun _ _ => none) verify ([0xAA, 0xBB] ++ Writer.run WriterEx.cfg 2 exAdds)
        = .ok r ∧
      ∃ it₀, readerIterInit true r none .iter = some (some it₀) ∧
        rRun it₀ (List.replicate 8 .next) = some (WriterEx.es.map some ++ [none]) := by
  obtain ⟨r, h1, h2⟩ := C01_roundtrip_any _ _ _ WriterEx.writerOK [0xAA, 0xBB] exAdds
    (by rw [exAdds_accepted]; exact WriterEx.sizesOK) verify
  rw [exAdds_accepted] at h2
  rcases h2 with ⟨h, _⟩ | h
  · cases h
  · exact ⟨r, h1, h⟩

end Mtbl.C01
