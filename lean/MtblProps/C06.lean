import MtblProofs.SorterProofs
import MtblProofs.SorterWriteProofs
import MtblProps.C01
/-
  C06 — Sorter: for every multiset of entries added in any order, with any memory limit (hence any split
  into chunks), the iterator yields each distinct key once, in ascending order, with the value obtained by
  folding the merge function over exactly the values added for that key; a spill happens no later than when
  the buffered entries reach the memory limit; spill files are created only inside the configured temporary
  directory; once iteration has begun further add calls are refused.

  Property theorems only (helper lemmas live in MtblProofs/SorterProofs.lean).  Model: MtblModel/Sorter.lean.
  Assumption about `qsort`: `c.sortFn` returns SOME key-sorted permutation of its input (not necessarily
  stable); `insertionSort_spec` shows the assumption is satisfiable.  A chunk is its entry list (the
  temporary-table round trip is the identity by C01).
-/
namespace Mtbl.C06
open Mtbl.SorterProofs

/-- `_mtbl_sorter_write_chunk` on a key-sorted batch with a merge function whose calls all succeed: the chunk
    has strictly ascending keys, exactly the keys of the batch, and each value is the LEFT fold of the merge
    function over the batch's values for that key in (sorted-)list order -/
theorem C06_foldChunk (f : Bytes → Bytes → Bytes → Option Bytes) (hok : ∀ k a b, f k a b ≠ none)
    (l : List Entry) (hs : Sorted l) :
    ∃ out, foldChunk (some f) l = .ok out ∧ StrictSorted out ∧
      (∀ k, (∃ e ∈ out, e.key = k) ↔ (∃ e ∈ l, e.key = k)) ∧
      ∀ e ∈ out, foldl1? f e.key (valuesOf e.key l) = some e.val :=
  let ⟨out, h1, _, h2⟩ := foldChunk_spec f hok l hs
  ⟨out, h1, h2⟩

/-- a batch without duplicate keys is written as it is, whatever the merge option -/
theorem C06_foldChunk_nodup (m : Option (Bytes → Bytes → Bytes → Option Bytes)) (l : List Entry)
    (hs : StrictSorted l) : foldChunk m l = .ok l := foldChunk_strictSorted m l hs

/-- a batch with a duplicate key and no merge function hits `assert(s->opt.merge != NULL)` -/
theorem C06_foldChunk_noMergeFn (l : List Entry) (hs : Sorted l) (hd : ¬ StrictSorted l) :
    foldChunk none l = .noMergeFn := foldChunk_noMergeFn l hs hd

/-- spill rule: after EVERY add sequence on a fresh sorter the batch is strictly below the (effective) memory
    limit — a spill happened no later than the add that made `entry_bytes + entry_vec_bytes` reach it — and
    `entry_bytes` is exactly Σ (sizeof(struct entry) + |key| + |val|) over the buffered entries -/
theorem C06_spill (c : SCfg) (h : 0 < c.effMemory) (adds : List Entry) :
    let s := (Sorter.addAll { cfg := c } adds).2
    s.entryBytes + c.ptrSize * s.vec.length < c.effMemory ∧
    s.entryBytes = (s.vec.map fun e => c.entryOverhead + e.key.length + e.val.length).sum :=
  Mtbl.C06_spill c h adds

/-- the hypothesis `0 < effMemory` of `C06_spill` holds whenever MIN_SORTER_MEMORY > 0 (it is 10485760) -/
theorem C06_effMemory (c : SCfg) : c.minMemory ≤ c.effMemory ∧ c.maxMemory ≤ c.effMemory := effMemory_ge_min c

/-- … as an invariant preserved by each `mtbl_sorter_add` from any state -/
theorem C06_spill_step (s : Sorter) (k v : Bytes) (h : 0 < s.cfg.effMemory) (hi : SpillInv s) :
    SpillInv (s.add k v).2 := spillInv_add s k v h hi

/-- … and the add that reaches the limit is exactly the one that spills (one `mkstemp` per spill) -/
theorem C06_spill_exact (s : Sorter) (k v : Bytes) (hit : s.iterating = false) :
    (s.add k v).2.spills =
      if s.entryBytes + s.cfg.entryOverhead + k.length + v.length + s.cfg.ptrSize * (s.vec.length + 1)
          ≥ s.cfg.effMemory then s.spills + 1 else s.spills := add_spills s k v hit

/-- once iteration has begun `mtbl_sorter_add` fails and changes nothing -/
theorem C06_refuse (s : Sorter) (k v : Bytes) (h : s.iterating = true) : s.add k v = (.failure, s) :=
  Mtbl.C06_refuse s k v h

/-- every spill file is created from the template `<tmpDir>/.mtbl.<pid>.XXXXXX`; after the configured
    directory comes one '/' and then no further '/', i.e. the file lies directly inside `tmpDir` -/
theorem C06_tmp (c : SCfg) :
    c.template = c.tmpDir ++ "/.mtbl." ++ toString c.pid ++ ".XXXXXX" ∧
    ∃ rest : List Char, c.template.toList = c.tmpDir.toList ++ '/' :: rest ∧ '/' ∉ rest :=
  Mtbl.C06_tmp c

/-- the add phase (merge function total): every add succeeds, nothing aborts, one spill per chunk, every
    chunk is strictly sorted, the chunks are correct chunks (`ChunkOf`) of consecutive segments of the adds
    and the rest is still buffered; per key `k`: the values added for `k` are the concatenation of per-chunk
    groups `p.1` and the buffered values, and the chunks hold for `k` exactly one value `p.2` per non-empty
    group, with `Folded f k p.1 p.2` -/
theorem C06_chunks (c : SCfg) (f : Bytes → Bytes → Bytes → Option Bytes)
    (hsort : ∀ l, (c.sortFn l).Perm l ∧ Sorted (c.sortFn l)) (hm : c.merge = some f)
    (hok : ∀ k a b, f k a b ≠ none) (adds : List Entry) :
    let r := Sorter.addAll { cfg := c } adds
    (∀ x ∈ r.1, x = .success) ∧ r.2.aborted = false ∧ r.2.failedChunk = false ∧
    r.2.iterating = false ∧ r.2.spills = r.2.chunks.length ∧
    (∀ ch ∈ r.2.chunks, StrictSorted ch) ∧
    (∃ pairs : List (List Entry × List Entry),
      (∀ p ∈ pairs, ChunkOf f p.1 p.2) ∧ r.2.chunks = pairs.map (·.2) ∧
      adds = (pairs.map (·.1)).flatten ++ r.2.vec) ∧
    ∀ k, ∃ ps : List (List Bytes × Bytes),
      valuesOf k adds = ps.flatMap (·.1) ++ valuesOf k r.2.vec ∧
      valuesOf k r.2.chunks.flatten = ps.map (·.2) ∧ ∀ p ∈ ps, Folded f k p.1 p.2 := by
  obtain ⟨h1, h2⟩ := accInv_addAll hsort hm hok adds (accInv_fresh c f)
  rw [List.nil_append] at h2
  obtain ⟨pairs, p1, p2, p3⟩ := h2.parts
  refine ⟨h1, h2.notAborted, h2.notFailed, h2.notIter, h2.spills, ?_, ⟨pairs, p1, p2, p3⟩, ?_⟩
  · intro ch hch
    rw [p2] at hch
    obtain ⟨p, hp, rfl⟩ := List.mem_map.mp hch
    exact (p1 p hp).ss
  · intro k
    obtain ⟨ps, q1, q2, q3⟩ := pairs_key pairs p1 k
    refine ⟨ps, ?_, ?_, q1⟩
    · rw [q3]
      conv => lhs; rw [p3]
      rw [MergerProofs.valuesOf_append]
    · rw [q2, p2]

/-- THE MAIN THEOREM.  For every list of adds, every memory limit (`c.maxMemory`, `c.minMemory` are
    arbitrary: any chunking), every key-sorting permutation `qsort` may pick, and a merge function whose calls
    succeed: all adds succeed, `mtbl_sorter_iter` returns an iterator, the sorter is then iterating, and
    draining the iterator yields strictly ascending keys, exactly the keys added, each with a value that
    combines ALL the values added for that key, each exactly once (`Folded`) -/
theorem C06_output (c : SCfg) (f : Bytes → Bytes → Bytes → Option Bytes)
    (hsort : ∀ l, (c.sortFn l).Perm l ∧ Sorted (c.sortFn l)) (hm : c.merge = some f)
    (hok : ∀ k a b, f k a b ≠ none)
    (mc : MCfg) (hmm : mc.merge = some f) (hds : mc.dupsort = none) (hF2 : mc.fixF2 = true)
    (adds : List Entry) (fuel : Nat) (hfuel : adds.length + 1 ≤ fuel) :
    let r := Sorter.addAll { cfg := c } adds
    (∀ x ∈ r.1, x = .success) ∧
    ∃ m, (r.2.iter mc).1 = some m ∧ (r.2.iter mc).2.iterating = true ∧
      StrictSorted (mergerDrain mc fuel m) ∧
      (∀ k, (∃ e ∈ mergerDrain mc fuel m, e.key = k) ↔ (∃ e ∈ adds, e.key = k)) ∧
      ∀ e ∈ mergerDrain mc fuel m, Folded f e.key (valuesOf e.key adds) e.val :=
  Mtbl.C06_output c f hsort hm hok mc hmm hds hF2 adds fuel hfuel

/-- empty input: the iterator exists and its first `next` fails -/
theorem C06_output_empty (c : SCfg) (f : Bytes → Bytes → Bytes → Option Bytes)
    (hsort : ∀ l, (c.sortFn l).Perm l ∧ Sorted (c.sortFn l)) (hm : c.merge = some f)
    (hok : ∀ k a b, f k a b ≠ none)
    (mc : MCfg) (hmm : mc.merge = some f) (hds : mc.dupsort = none) (hF2 : mc.fixF2 = true) :
    ∃ m, ((Sorter.addAll { cfg := c } []).2.iter mc).1 = some m ∧ (mergerNext mc m).1 = .fail := by
  obtain ⟨_, m, g1, _, _, g6, _⟩ := Mtbl.C06_output c f hsort hm hok mc hmm hds hF2 [] 1 (by simp)
  refine ⟨m, g1, ?_⟩
  cases hn : mergerNext mc m with
  | mk r m' =>
    cases r with
    | fail => rfl
    | ok k v =>
      exfalso
      have : mergerDrain mc 1 m = { key := k, val := v } :: mergerDrain mc 0 m' :=
        MergerProofs.mergerDrain_ok mc 0 hn
      obtain ⟨e, he, _⟩ := (g6 k).mp ⟨_, by rw [this]; exact List.mem_cons_self, rfl⟩
      simp at he

/-- for an associative and commutative merge function every `Folded` combination is the left fold -/
theorem C06_folded_comm {f : Bytes → Bytes → Bytes → Option Bytes} (g : Bytes → Bytes → Bytes → Bytes)
    (hf : ∀ k a b, f k a b = some (g k a b))
    (hassoc : ∀ k a b c, g k (g k a b) c = g k a (g k b c)) (hcomm : ∀ k a b, g k a b = g k b a)
    {k : Bytes} {vs : List Bytes} {v : Bytes} (h : Folded f k vs v) : foldl1? f k vs = some v :=
  foldl1?_of_Folded g hf hassoc hcomm h

/-- … hence the output value of each key is THE fold (arrival order) of the values added for it … -/
theorem C06_output_comm (c : SCfg) (f : Bytes → Bytes → Bytes → Option Bytes)
    (hsort : ∀ l, (c.sortFn l).Perm l ∧ Sorted (c.sortFn l)) (hm : c.merge = some f)
    (g : Bytes → Bytes → Bytes → Bytes) (hf : ∀ k a b, f k a b = some (g k a b))
    (hassoc : ∀ k a b c, g k (g k a b) c = g k a (g k b c)) (hcomm : ∀ k a b, g k a b = g k b a)
    (mc : MCfg) (hmm : mc.merge = some f) (hds : mc.dupsort = none) (hF2 : mc.fixF2 = true)
    (adds : List Entry) (fuel : Nat) (hfuel : adds.length + 1 ≤ fuel) :
    ∃ out, sorterRun c mc fuel adds = some out ∧ StrictSorted out ∧
      (∀ k, (∃ e ∈ out, e.key = k) ↔ (∃ e ∈ adds, e.key = k)) ∧
      ∀ e ∈ out, foldl1? f e.key (valuesOf e.key adds) = some e.val :=
  Mtbl.C06_output_comm c f hsort hm g hf hassoc hcomm mc hmm hds hF2 adds fuel hfuel

/-- … and the whole drained output is the same list for every memory limit, every `qsort`, every fuel -/
theorem C06_output_unique (c c' : SCfg) (f : Bytes → Bytes → Bytes → Option Bytes)
    (hsort : ∀ l, (c.sortFn l).Perm l ∧ Sorted (c.sortFn l)) (hm : c.merge = some f)
    (hsort' : ∀ l, (c'.sortFn l).Perm l ∧ Sorted (c'.sortFn l)) (hm' : c'.merge = some f)
    (g : Bytes → Bytes → Bytes → Bytes) (hf : ∀ k a b, f k a b = some (g k a b))
    (hassoc : ∀ k a b c, g k (g k a b) c = g k a (g k b c)) (hcomm : ∀ k a b, g k a b = g k b a)
    (mc mc' : MCfg) (hmm : mc.merge = some f) (hds : mc.dupsort = none) (hF2 : mc.fixF2 = true)
    (hmm' : mc'.merge = some f) (hds' : mc'.dupsort = none) (hF2' : mc'.fixF2 = true)
    (adds : List Entry) (fuel fuel' : Nat) (hfuel : adds.length + 1 ≤ fuel)
    (hfuel' : adds.length + 1 ≤ fuel') :
    sorterRun c mc fuel adds = sorterRun c' mc' fuel' adds :=
  sorterRun_perm c c' f hsort hm hsort' hm' g hf hassoc hcomm mc mc' hmm hds hF2 hmm' hds' hF2'
    (List.Perm.refl adds) fuel fuel' hfuel hfuel'

/-- the assumption on `qsort` is satisfiable: a stable insertion sort by key -/
theorem C06_qsort_witness (l : List Entry) : (insertionSort l).Perm l ∧ Sorted (insertionSort l) :=
  insertionSort_spec l

/-! non-vacuity: `exCfg` has limit 40 (three 1+1-byte entries reach it), merge = concatenation, stable sort;
    `exAdds` is reverse-sorted with duplicates within and across chunks and the empty key -/
example : (Sorter.addAll { cfg := exCfg } exAdds).2.chunks =
      [[⟨[2], [2, 3]⟩, ⟨[3], [1]⟩], [⟨[1], [5, 6]⟩, ⟨[2], [4]⟩]] ∧
    (Sorter.addAll { cfg := exCfg } exAdds).2.vec = [⟨[], [7]⟩, ⟨[], [8]⟩] ∧
    (Sorter.addAll { cfg := exCfg } exAdds).2.spills = 2 := by decide +kernel
example : sorterRun exCfg exMCfg 9 exAdds =
    some [⟨[], [7, 8]⟩, ⟨[1], [5, 6]⟩, ⟨[2], [4, 2, 3]⟩, ⟨[3], [1]⟩] := by decide +kernel
example : sorterRun exCfg exMCfg 12 exAdds11 =
    some [⟨[], [7, 8, 10]⟩, ⟨[1], [5, 6, 9]⟩, ⟨[2], [2, 3, 4]⟩, ⟨[3], [1]⟩, ⟨[4], [11]⟩] := by
  decide +kernel

/-- `mtbl_sorter_write` into a fresh writer (any configuration, any foreign prefix): it succeeds, the sorter is then
    iterating (so further adds and writes are refused, C06_refuse), and the finished file opens and iterates back to the
    sorted, merged input: strictly ascending keys, exactly the keys added, each value a combination of all values added
    for that key — C06_output ∘ C04_source_write ∘ C01_roundtrip -/
theorem C06_write (c : SCfg) (f : Bytes → Bytes → Bytes → Option Bytes)
    (hsort : ∀ l, (c.sortFn l).Perm l ∧ Sorted (c.sortFn l)) (hm : c.merge = some f)
    (hok : ∀ k a b, f k a b ≠ none)
    (mc : MCfg) (hmm : mc.merge = some f) (hds : mc.dupsort = none) (hF2 : mc.fixF2 = true)
    (adds : List Entry) (fuel : Nat) (hfuel : adds.length + 1 ≤ fuel)
    (cfg : WCfg) (comp : Bytes → Bytes) (decomp : Nat → Bytes → Option Bytes) (hw : WriterOK cfg comp decomp)
    (pre : Bytes) (verify : Bool) :
    let s := (Sorter.addAll { cfg := c } adds).2
    let x := s.writeTo mc fuel (W.new cfg pre.length)
    ∃ out : List Entry,
      StrictSorted out ∧ (∀ k, (∃ e ∈ out, e.key = k) ↔ (∃ e ∈ adds, e.key = k)) ∧
      (∀ e ∈ out, Folded f e.key (valuesOf e.key adds) e.val) ∧
      x.1 = .success ∧ x.2.1.iterating = true ∧
      (SizesOK cfg comp pre out →
        ∃ r, readerOpen true cfg.thr decomp verify (pre ++ x.2.2.finish) = .ok r ∧
          ((out = [] ∧ readerIterInit true r none .iter = some none) ∨
           (∃ it₀, readerIterInit true r none .iter = some (some it₀) ∧
              rRun it₀ (List.replicate (out.length + 1) .next) = some (out.map some ++ [none])))) := by
  intro s x
  obtain ⟨_, m, g1, g2, g3, g4, g5⟩ := Mtbl.C06_output c f hsort hm hok mc hmm hds hF2 adds fuel hfuel
  have hni : s.iterating = false := (C06_chunks c f hsort hm hok adds).2.2.2.1
  refine ⟨mergerDrain mc fuel m, g3, g4, g5, ?_⟩
  have g1' : (s.iter mc).1 = some m := g1
  have hx : x = (.success, (s.iter mc).2, ((W.new cfg pre.length).addAll (mergerDrain mc fuel m)).2) := by
    show s.writeTo mc fuel (W.new cfg pre.length) = _
    unfold Sorter.writeTo
    rw [if_neg (by rw [hni]; decide)]
    simp only [g1']
    rw [sourceWrite_sorted cfg pre.length _ g3]
  rw [hx]
  refine ⟨rfl, g2, fun hsz => ?_⟩
  exact Mtbl.C01.C01_roundtrip cfg comp decomp hw pre _ g3 hsz verify


end Mtbl.C06
