import MtblProps.Common
/-
  C02 — Lookups: `get`, `get_prefix`, `get_range` return exactly the entries of the table that match,
  in order, then failure; first on the writer's output (R ∘ E ∘ W), then on any legal encoding (R ∘ E).
  `drainOut F m` = what `m` successive `next` calls return: the first `m` entries of `F`, padded with failures.
-/
namespace Mtbl.C02

open RI (drainOut)

/-! ### on the writer's output -/

/-- **C02 (get).**  On the file written from strictly increasing adds `es`: for every key `k` (present or
    not, any length, also the empty key), the `get k` iterator returns exactly the entries of `es` whose key
    equals `k` (at most one), then failure for ever.  A NULL iterator (= always failing) is handed out only
    when there is no such entry. -/
theorem C02_get (cfg : WCfg) (comp : Bytes → Bytes) (decomp : Nat → Bytes → Option Bytes)
    (hw : WriterOK cfg comp decomp) (pre : Bytes) (es : List Entry) (hs : StrictSorted es)
    (hz : SizesOK cfg comp pre es) (verify : Bool) :
    ∃ r, readerOpen true cfg.thr decomp verify (pre ++ Writer.run cfg pre.length es) = .ok r ∧
      ∀ k : Bytes,
        ((es.filter fun e => bcmp e.key k == .eq) = [] ∧
          readerIterInit true r (some k) (.get k) = some none) ∨
        (∃ it₀, readerIterInit true r (some k) (.get k) = some (some it₀) ∧
          ∀ m, rRun it₀ (List.replicate m .next) =
            some (drainOut (es.filter fun e => bcmp e.key k == .eq) m)) := by
  obtain ⟨r, t, hopen, ok, hent⟩ := hw.opens hs hz verify
  exact ⟨r, hopen, hent ▸ ok.get⟩

/-- **C02 (prefix).**  The `get_prefix p` iterator returns exactly the entries of `es` whose key starts with
    `p`, in order, then failure; NULL only when there is none. -/
theorem C02_prefix (cfg : WCfg) (comp : Bytes → Bytes) (decomp : Nat → Bytes → Option Bytes)
    (hw : WriterOK cfg comp decomp) (pre : Bytes) (es : List Entry) (hs : StrictSorted es)
    (hz : SizesOK cfg comp pre es) (verify : Bool) :
    ∃ r, readerOpen true cfg.thr decomp verify (pre ++ Writer.run cfg pre.length es) = .ok r ∧
      ∀ p : Bytes,
        ((es.filter fun e => isPrefix p e.key) = [] ∧
          readerIterInit true r (some p) (.pfx p) = some none) ∨
        (∃ it₀, readerIterInit true r (some p) (.pfx p) = some (some it₀) ∧
          ∀ m, rRun it₀ (List.replicate m .next) =
            some (drainOut (es.filter fun e => isPrefix p e.key) m)) := by
  obtain ⟨r, t, hopen, ok, hent⟩ := hw.opens hs hz verify
  exact ⟨r, hopen, hent ▸ ok.prefix⟩

/-- **C02 (range).**  The `get_range k0 k1` iterator returns exactly the entries of `es` with
    `k0 ≤ key ≤ k1` (both ends inclusive; nothing when `k1 < k0`), in order, then failure; NULL only when
    there is none. -/
theorem C02_range (cfg : WCfg) (comp : Bytes → Bytes) (decomp : Nat → Bytes → Option Bytes)
    (hw : WriterOK cfg comp decomp) (pre : Bytes) (es : List Entry) (hs : StrictSorted es)
    (hz : SizesOK cfg comp pre es) (verify : Bool) :
    ∃ r, readerOpen true cfg.thr decomp verify (pre ++ Writer.run cfg pre.length es) = .ok r ∧
      ∀ k0 k1 : Bytes,
        ((es.filter fun e => ble k0 e.key && ble e.key k1) = [] ∧
          readerIterInit true r (some k0) (.range k1) = some none) ∨
        (∃ it₀, readerIterInit true r (some k0) (.range k1) = some (some it₀) ∧
          ∀ m, rRun it₀ (List.replicate m .next) =
            some (drainOut (es.filter fun e => ble k0 e.key && ble e.key k1) m)) := by
  obtain ⟨r, t, hopen, ok, hent⟩ := hw.opens hs hz verify
  exact ⟨r, hopen, hent ▸ ok.range⟩

/-- draining completely: `|es| + 1` calls return the whole selection followed by at least one failure -/
theorem C02_drain_all (es : List Entry) (P : Entry → Bool) :
    drainOut (es.filter P) (es.length + 1) =
      (es.filter P).map some ++ List.replicate (es.length + 1 - (es.filter P).length) none :=
  drainOut_filter es P

/-! ### on any legal encoding (independent encoder: v1 or v2, any restart positions, any sharing, any
    separators, any block split) -/

/-- **C02 (get)** on any legal encoding `f` -/
theorem C02_get_file (f : EFile) (comp : Bytes → Bytes) (decomp : Nat → Bytes → Option Bytes)
    (hf : FileOK f comp decomp) (verify : Bool) :
    ∃ r, readerOpen true f.thr decomp verify (f.encode comp) = .ok r ∧
      ∀ k : Bytes,
        ((f.entries.filter fun e => bcmp e.key k == .eq) = [] ∧
          readerIterInit true r (some k) (.get k) = some none) ∨
        (∃ it₀, readerIterInit true r (some k) (.get k) = some (some it₀) ∧
          ∀ m, rRun it₀ (List.replicate m .next) =
            some (drainOut (f.entries.filter fun e => bcmp e.key k == .eq) m)) := by
  obtain ⟨r, t, hopen, ok, hent⟩ := hf.opens verify
  exact ⟨r, hopen, hent ▸ ok.get⟩

/-- **C02 (prefix)** on any legal encoding `f` -/
theorem C02_prefix_file (f : EFile) (comp : Bytes → Bytes) (decomp : Nat → Bytes → Option Bytes)
    (hf : FileOK f comp decomp) (verify : Bool) :
    ∃ r, readerOpen true f.thr decomp verify (f.encode comp) = .ok r ∧
      ∀ p : Bytes,
        ((f.entries.filter fun e => isPrefix p e.key) = [] ∧
          readerIterInit true r (some p) (.pfx p) = some none) ∨
        (∃ it₀, readerIterInit true r (some p) (.pfx p) = some (some it₀) ∧
          ∀ m, rRun it₀ (List.replicate m .next) =
            some (drainOut (f.entries.filter fun e => isPrefix p e.key) m)) := by
  obtain ⟨r, t, hopen, ok, hent⟩ := hf.opens verify
  exact ⟨r, hopen, hent ▸ ok.prefix⟩

/-- **C02 (range)** on any legal encoding `f` -/
theorem C02_range_file (f : EFile) (comp : Bytes → Bytes) (decomp : Nat → Bytes → Option Bytes)
    (hf : FileOK f comp decomp) (verify : Bool) :
    ∃ r, readerOpen true f.thr decomp verify (f.encode comp) = .ok r ∧
      ∀ k0 k1 : Bytes,
        ((f.entries.filter fun e => ble k0 e.key && ble e.key k1) = [] ∧
          readerIterInit true r (some k0) (.range k1) = some none) ∨
        (∃ it₀, readerIterInit true r (some k0) (.range k1) = some (some it₀) ∧
          ∀ m, rRun it₀ (List.replicate m .next) =
            some (drainOut (f.entries.filter fun e => ble k0 e.key && ble e.key k1) m)) := by
  obtain ⟨r, t, hopen, ok, hent⟩ := hf.opens verify
  exact ⟨r, hopen, hent ▸ ok.range⟩

/-- the hypotheses hold for the five-block example; the three selections asked of it are not trivial:
    `get [1,2]` finds one entry, prefix `[2]` three, range `[1] … [1,2,3]` three, `get [5]` none -/
example (verify : Bool) :
    ∃ r, readerOpen true WriterEx.cfg.thr (fun _ _ => none) verify ([0xAA, 0xBB] ++ Writer.run WriterEx.cfg 2 WriterEx.es)
        = .ok r ∧
      ∀ k : Bytes,
        ((WriterEx.es.filter fun e => bcmp e.key k == .eq) = [] ∧
          readerIterInit true r (some k) (.get k) = some none) ∨
        (∃ it₀, readerIterInit true r (some k) (.get k) = some (some it₀) ∧
          ∀ m, rRun it₀ (List.replicate m .next) =
            some (drainOut (WriterEx.es.filter fun e => bcmp e.key k == .eq) m)) :=
  C02_get _ _ _ WriterEx.writerOK [0xAA, 0xBB] _ WriterEx.sorted WriterEx.sizesOK verify

example : (WriterEx.es.filter fun e => bcmp e.key [1, 2] == .eq) = [⟨[1, 2], []⟩] ∧
    (WriterEx.es.filter fun e => isPrefix [2] e.key) = [⟨[2], [9]⟩, ⟨[2, 0], [9]⟩, ⟨[2, 1], [9]⟩] ∧
    (WriterEx.es.filter fun e => ble [1] e.key && ble e.key [1, 2, 3]).map (·.key) = [[1], [1, 2], [1, 2, 3]] ∧
    (WriterEx.es.filter fun e => bcmp e.key [5] == .eq) = [] := by decide +kernel

example (verify : Bool) := C02_prefix _ _ _ WriterEx.writerOKZ [0xAA, 0xBB] _ WriterEx.sorted WriterEx.sizesOKZ verify
example (verify : Bool) := C02_range _ _ _ WriterEx.writerOK [0xAA, 0xBB] _ WriterEx.sorted WriterEx.sizesOK verify
example (ver : FVersion) (verify : Bool) := C02_get_file _ _ _ (FileEnc.exFile_ok ver) verify
example (ver : FVersion) (verify : Bool) := C02_prefix_file _ _ _ (FileEnc.exFile_ok ver) verify
example (ver : FVersion) (verify : Bool) := C02_range_file _ _ _ (FileEnc.exFile64_ok ver) verify

end Mtbl.C02
