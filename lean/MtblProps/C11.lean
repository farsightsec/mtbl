import MtblProps.Common
/-
  C11 — Every well-formed file is readable, not only the files this writer produces.
  `EFile` (MtblModel/Format.lean) is an encoder written from the format description, parameterised by every
  choice the format leaves open; `FileOK f comp decomp` = the choices are legal, the codec round-trips, sizes fit.
  For every such `f` the reader returns exactly the encoded entries — for full iteration, for the three lookups and
  for every seek history.   (R ∘ E)
-/
namespace Mtbl.C11

open RI (drainOut)

/-- **C11.**  For EVERY legal encoding `f` — format version 1 or 2, restart points anywhere (first at entry 0,
    strictly increasing), any number of shared key bytes up to the longest common prefix (0 at restart points), any
    separator with `last key of block ≤ separator < first key of next block`, any split of the entries into
    non-empty blocks, any foreign prefix, compressed or not, 32- or 64-bit restart arrays (any threshold `thr`) —
    the file opens, with or without checksum verification, and the reader `r` obtained returns exactly the
    encoded entries `f.entries`:

    1. **full iteration** returns them all, in order, then failure (NULL iterator only for the empty table);
    2. **lookups** `get k` / `get_prefix p` / `get_range k0 k1` return exactly the matching entries, in order,
       then failure (NULL iterator only when nothing matches);
    3. **seek histories**: on every kind of iterator with any start key, every finite history of `next` and
       `seek` calls returns what the abstract cursor over `f.entries` returns; the reader never aborts. -/
theorem C11_readable (f : EFile) (comp : Bytes → Bytes) (decomp : Nat → Bytes → Option Bytes)
    (hf : FileOK f comp decomp) (verify : Bool) :
    ∃ r, readerOpen true f.thr decomp verify (f.encode comp) = .ok r ∧
      -- 1. full iteration
      ((f.entries = [] ∧ readerIterInit true r none .iter = some none) ∨
       (∃ it₀, readerIterInit true r none .iter = some (some it₀) ∧
          (∀ m, rRun it₀ (List.replicate m .next) = some (drainOut f.entries m)) ∧
          rRun it₀ (List.replicate (f.entries.length + 1) .next) = some (f.entries.map some ++ [none]))) ∧
      -- 2. lookups
      (∀ k : Bytes,
        ((f.entries.filter fun e => bcmp e.key k == .eq) = [] ∧
          readerIterInit true r (some k) (.get k) = some none) ∨
        (∃ it₀, readerIterInit true r (some k) (.get k) = some (some it₀) ∧
          ∀ m, rRun it₀ (List.replicate m .next) =
            some (drainOut (f.entries.filter fun e => bcmp e.key k == .eq) m))) ∧
      (∀ p : Bytes,
        ((f.entries.filter fun e => isPrefix p e.key) = [] ∧
          readerIterInit true r (some p) (.pfx p) = some none) ∨
        (∃ it₀, readerIterInit true r (some p) (.pfx p) = some (some it₀) ∧
          ∀ m, rRun it₀ (List.replicate m .next) =
            some (drainOut (f.entries.filter fun e => isPrefix p e.key) m))) ∧
      (∀ k0 k1 : Bytes,
        ((f.entries.filter fun e => ble k0 e.key && ble e.key k1) = [] ∧
          readerIterInit true r (some k0) (.range k1) = some none) ∨
        (∃ it₀, readerIterInit true r (some k0) (.range k1) = some (some it₀) ∧
          ∀ m, rRun it₀ (List.replicate m .next) =
            some (drainOut (f.entries.filter fun e => ble k0 e.key && ble e.key k1) m))) ∧
      -- 3. seek histories
      (∀ (kind : Kind) (start : Option Bytes),
        (readerIterInit true r start kind = some none ∧
          lowerBound f.entries (start.getD []) = f.entries.length) ∨
        (∃ it₀, readerIterInit true r start kind = some (some it₀) ∧
          ∀ ops : List IOp,
            rRun it₀ ops = some (specRun kind f.entries ⟨lowerBound f.entries (start.getD []), false⟩ ops))) := by
  obtain ⟨r, t, hopen, ok, hent⟩ := hf.opens verify
  exact ⟨r, hopen, hent ▸ ⟨ok.iterate, ok.get, ok.prefix, ok.range, ok.history⟩⟩

/-- **C11 (open)**: the first half on its own, with the hypotheses spelled out instead of bundled -/
theorem C11_opens (f : EFile) (comp : Bytes → Bytes) (decomp : Nat → Bytes → Option Bytes) (verify : Bool)
    (hl : f.legal comp = true)
    (hcodec : f.compression ≠ 0 → ∀ raw, decomp f.compression (comp raw) = some raw)
    (hthr : f.thr < 2^32)
    (hsize : (f.encode comp).length < 2^64)
    (hnr : ∀ b ∈ f.blocks, b.restarts.length < 2^32 - 1) (hnri : f.indexRestarts.length < 2^32 - 1)
    (hraw : f.compression ≠ 0 → ∀ b ∈ f.blocks, (b.encode f.thr).length < 2^64)
    (hv1 : f.version = .v1 →
      (∀ b ∈ f.blocks, (if f.compression = 0 then b.encode f.thr else comp (b.encode f.thr)).length < 2^32) ∧
      ((f.indexBlock comp).encode f.thr).length < 2^32)
    (hcompr : f.compression < 2^64) :
    FileOK f comp decomp ∧
    ∃ r t, readerOpen true f.thr decomp verify (f.encode comp) = .ok r ∧ TableOK r t ∧ t.entries = f.entries :=
  ⟨⟨hl, hcodec, hthr, hsize, hnr, hnri, hraw, hv1, hcompr⟩,
   EFile.open_ok f comp decomp verify hl hcodec hthr hsize hnr hnri hraw hv1 hcompr⟩

/-- **C11 covers the writer**: the file the writer produces is one of the legal encodings (so C01–C03 on writer output
    are instances of C11) -/
theorem C11_covers_writer (cfg : WCfg) (comp : Bytes → Bytes) (decomp : Nat → Bytes → Option Bytes)
    (hw : WriterOK cfg comp decomp) (pre : Bytes) (es : List Entry) (hs : StrictSorted es)
    (hz : SizesOK cfg comp pre es) :
    FileOK (canonFile cfg pre es) comp decomp ∧
    (canonFile cfg pre es).encode comp = pre ++ Writer.run cfg pre.length es ∧
    (canonFile cfg pre es).entries = es :=
  ⟨hw.fileOK hs hz, (W_refines_format cfg comp hw.comp_eq pre es hs).symm, canonFile_entries cfg pre es⟩

/-! ### non-vacuity: files the writer would never produce -/

/-- the two-block example as v1 and as v2: non-maximal sharing (1 of 3 possible bytes), two restart points in a
    two-entry block, a separator `"ac"` that is not a key, two foreign bytes -/
example (ver : FVersion) (verify : Bool) := C11_readable _ _ _ (FileEnc.exFile_ok ver) verify

/-- the same with `thr := 8`: all three blocks carry 64-bit restart arrays -/
example (ver : FVersion) (verify : Bool) := C11_readable _ _ _ (FileEnc.exFile64_ok ver) verify

example : (FileEnc.exFile .v1).legal id = true ∧ (FileEnc.exFile .v2).legal id = true ∧
    (FileEnc.exFile64 .v1).legal id = true ∧ (FileEnc.exFile64 .v2).legal id = true := by decide +kernel

/-- the 64-bit restart arrays are really there: with `thr := 8` every block is longer than with the default threshold
    (4 more bytes per restart point), so the two encodings differ -/
example : ((FileEnc.exFile64 .v2).blocks.map fun b => (b.encode 8).length) = [32, 31] ∧
    ((FileEnc.exFile .v2).blocks.map fun b => (b.encode 4294967295).length) = [28, 23] ∧
    (FileEnc.exFile64 .v2).encode id ≠ (FileEnc.exFile .v2).encode id := by decide +kernel

/-- a compressed legal file (toy codec: blocks stored reversed), and the empty table -/
def exFileZ (ver : FVersion) : EFile := { FileEnc.exFile ver with compression := 1 }

theorem exFileZ_ok (ver : FVersion) : FileOK (exFileZ ver) List.reverse (fun _ s => some s.reverse) where
  legal := by cases ver <;> decide +kernel
  codec := fun _ raw => by simp
  thr := by cases ver <;> decide +kernel
  size := by cases ver <;> decide +kernel
  restarts := by cases ver <;> decide +kernel
  indexRestarts := by cases ver <;> decide +kernel
  raw := fun _ => by cases ver <;> decide +kernel
  v1 := by
    cases ver
    · exact fun _ => by decide +kernel
    · exact nofun
  compression_lt := by cases ver <;> decide +kernel

example (ver : FVersion) (verify : Bool) := C11_readable _ _ _ (exFileZ_ok ver) verify

theorem exEmpty_ok (ver : FVersion) : FileOK (FileEnc.exEmpty ver) id (fun _ _ => none) where
  legal := by cases ver <;> decide +kernel
  codec := fun h => absurd rfl h
  thr := by cases ver <;> decide +kernel
  size := by cases ver <;> decide +kernel
  restarts := by cases ver <;> decide +kernel
  indexRestarts := by cases ver <;> decide +kernel
  raw := fun h => absurd rfl h
  v1 := by
    cases ver
    · exact fun _ => by decide +kernel
    · exact nofun
  compression_lt := by cases ver <;> decide +kernel

example (ver : FVersion) (verify : Bool) := C11_readable _ _ _ (exEmpty_ok ver) verify

end Mtbl.C11
