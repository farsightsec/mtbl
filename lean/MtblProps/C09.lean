import MtblProps.Common
import MtblProps.C01
/-
  C09 — What the writer produces is a well-formed file that follows the writer's own layout rules:
  it IS an encoding by the independent encoder (MtblModel/Format.lean) for legal choices, and those choices obey
  the restart cadence, the block-size rule and the block-cut rule.
-/
namespace Mtbl.C09

/-- **C09.**  For every configuration (total compressor, restart interval ≥ 1), foreign prefix `pre` and
    strictly increasing `es` (entries shorter than 4 GiB, file shorter than 2^64 bytes), there is a choice `f` of
    encoding parameters such that
    * `f` is a version-2 file after the prefix `pre`, with the configured compression type, block-size field and
      restart-width threshold;
    * the choices are legal and the entries encoded are exactly `es`;
    * the bytes in the file after the writer finished are, byte for byte, the independent encoder's output for `f`;
    * **cadence**: in every data block and in the index block the restart points are exactly the entry indices
      `0, interval, 2·interval, …`, an entry at a restart point shares nothing and every other entry shares
      exactly the longest common prefix with the key before it;
    * **separators**: the index key of a block is `bytes_shortest_separator(last key, first key of the next
      block)`, and the last key itself for the final block;
    * **size rule**: a data block holding more than one entry (whose entry region does not exceed the restart-width
      threshold — always the case below 4 GiB) is shorter than the block size;
    * **cut rule**: a data block was closed only because the first entry `(k, v)` of the next block made
      `size so far + 15 + |k| + |v| ≥ block size`; no data block is empty. -/
theorem C09_wellformed (cfg : WCfg) (comp : Bytes → Bytes) (hc : cfg.comp = fun raw => some (comp raw))
    (hi : 1 ≤ cfg.interval) (pre : Bytes) (es : List Entry) (hs : StrictSorted es)
    (hlen : ∀ e ∈ es, e.key.length < 2^32 ∧ e.val.length < 2^32)
    (hsize : ((canonFile cfg pre es).encode comp).length < 2^64) :
    ∃ f : EFile,
      (f.version = .v2 ∧ f.pre = pre ∧ f.compression = cfg.compression ∧
        f.blockSizeField = cfg.effBlockSize ∧ f.thr = cfg.thr) ∧
      f.legal comp = true ∧
      f.entries = es ∧
      pre ++ Writer.run cfg pre.length es = f.encode comp ∧
      -- cadence
      (∀ b, (b ∈ f.blocks ∨ b = f.indexBlock comp) →
        (∀ i, i ∈ b.restarts ↔ i < max b.items.length 1 ∧ i % cfg.interval = 0) ∧
        b.restarts.Pairwise (· < ·) ∧
        (∀ i it, b.items[i]? = some it →
          it.shared = if i % cfg.interval = 0 then 0
                      else lcp (((b.items[i - 1]?).map (·.e.key)).getD []) it.e.key)) ∧
      -- separators
      f.seps = canonSeps (f.blocks.map EBlock.entries) ∧
      -- size rule
      (∀ b ∈ f.blocks, 1 < b.items.length → b.region.length ≤ cfg.thr →
        (b.encode cfg.thr).length < cfg.effBlockSize) ∧
      -- cut rule
      (∀ b ∈ f.blocks, b.items ≠ []) ∧
      (∀ j b b' it, f.blocks[j]? = some b → f.blocks[j + 1]? = some b' → b'.items.head? = some it →
        (b.encode cfg.thr).length + 15 + it.e.key.length + it.e.val.length ≥ cfg.effBlockSize) := by
  refine ⟨canonFile cfg pre es, ⟨rfl, rfl, rfl, rfl, rfl⟩, canonFile_legal cfg comp pre es hi hs hlen hsize,
    canonFile_entries cfg pre es, W_refines_format cfg comp hc pre es hs, ?_, ?_, ?_, ?_, ?_⟩
  · rintro b (hb | rfl)
    · rw [(Glue.mem_blocks cfg pre es b hb).2]
      exact C09_cadence cfg.interval hi _
    · rw [WriterP.canonFile_indexBlock]
      exact C09_cadence cfg.interval hi _
  · rw [Glue.blocks_entries]; rfl
  · intro b hb h1 hreg
    obtain ⟨hB, hbe⟩ := Glue.mem_blocks cfg pre es b hb
    rw [hbe] at h1 hreg ⊢
    rw [Glue.canonBlock_items_length] at h1
    exact C09_size_rule_lt cfg es hlen _ hB h1 hreg
  · intro b hb hnil
    obtain ⟨hB, hbe⟩ := Glue.mem_blocks cfg pre es b hb
    have := WriterP.splitBlocks_ne_nil cfg es [] _ hB
    apply this
    show b.items.map (·.e) = []
    rw [hnil]; rfl
  · intro j b b' it hb hb' hit
    obtain ⟨hB, hbe⟩ := Glue.blocks_getElem? cfg pre es j b hb
    obtain ⟨hB', _⟩ := Glue.blocks_getElem? cfg pre es (j + 1) b' hb'
    have hcons : b'.entries = it.e :: b'.entries.tail := by
      show b'.items.map (·.e) = it.e :: (b'.items.map (·.e)).tail
      cases hitems : b'.items with
      | nil => rw [hitems] at hit; cases hit
      | cons x xs =>
        rw [hitems] at hit
        cases hit
        rfl
    rw [hcons] at hB'
    rw [hbe]
    exact (C09_cut_rule cfg es j _ _ _ hB hB').2

/-- **C09 (foreign prefix)**: whatever was in the file before the writer was attached to the descriptor is still
    there, untouched, in front of the table (the writer only appends; `Writer.run` returns the bytes written after
    offset `pre.length`, and block offsets in the index are absolute, i.e. they count the prefix). -/
theorem C09_prefix_untouched (cfg : WCfg) (comp : Bytes → Bytes) (hc : cfg.comp = fun raw => some (comp raw))
    (pre : Bytes) (es : List Entry) (hs : StrictSorted es) :
    ∃ rest, (canonFile cfg pre es).encode comp = pre ++ rest ∧ rest = Writer.run cfg pre.length es :=
  ⟨_, (W_refines_format cfg comp hc pre es hs).symm, rfl⟩

/-- **C09 for arbitrary add sequences**: the file is the well-formed file of the accepted adds -/
theorem C09_wellformed_any (cfg : WCfg) (comp : Bytes → Bytes) (hc : cfg.comp = fun raw => some (comp raw))
    (hi : 1 ≤ cfg.interval) (pre : Bytes) (adds : List Entry)
    (hlen : ∀ e ∈ acceptedOf none adds, e.key.length < 2^32 ∧ e.val.length < 2^32)
    (hsize : ((canonFile cfg pre (acceptedOf none adds)).encode comp).length < 2^64) :
    pre ++ Writer.run cfg pre.length adds = (canonFile cfg pre (acceptedOf none adds)).encode comp ∧
    (canonFile cfg pre (acceptedOf none adds)).legal comp = true ∧
    (canonFile cfg pre (acceptedOf none adds)).entries = acceptedOf none adds :=
  ⟨W_refines_format_any cfg comp hc pre adds, canonFile_legal_any cfg comp pre adds hi hlen hsize,
   canonFile_entries cfg pre _⟩

/-! ### the rules on the groups of entries the writer forms (`splitBlocks cfg [] es` = the entry lists of the data
    blocks, in order; data block `B` is encoded as `canonBlock cfg.interval B`) -/

/-- the data blocks of the file are the canonical encodings of the groups, the groups are non-empty and
    concatenate to `es` -/
theorem C09_groups (cfg : WCfg) (pre : Bytes) (es : List Entry) :
    (canonFile cfg pre es).blocks = (splitBlocks cfg [] es).map (canonBlock cfg.interval) ∧
    (splitBlocks cfg [] es).flatten = es ∧ (∀ B ∈ splitBlocks cfg [] es, B ≠ []) :=
  ⟨rfl, by rw [WriterP.splitBlocks_flatten]; rfl, WriterP.splitBlocks_ne_nil cfg es []⟩

/-- **C09 (size rule).**  A data block holding more than one entry, whose entry region is at most `thr` bytes
    (`thr = UINT32_MAX`: always the case below 4 GiB), is no longer than the configured block size (in fact strictly
    shorter).  A block with a single entry can have any size: an entry larger than a block gets a block of its own. -/
theorem C09_size_rule (cfg : WCfg) (es : List Entry)
    (hlen : ∀ e ∈ es, e.key.length < 2^32 ∧ e.val.length < 2^32)
    (B : List Entry) (hB : B ∈ splitBlocks cfg [] es) (h1 : 1 < B.length)
    (hreg : (canonBlock cfg.interval B).region.length ≤ cfg.thr) :
    ((canonBlock cfg.interval B).encode cfg.thr).length ≤ cfg.effBlockSize ∧
    ((canonBlock cfg.interval B).encode cfg.thr).length < cfg.effBlockSize :=
  ⟨Mtbl.C09_size_rule cfg es hlen B hB h1 hreg, C09_size_rule_lt cfg es hlen B hB h1 hreg⟩

/-- **C09 (size rule above the threshold).**  When the entry region was already longer than `thr` before the last
    entry was added (8-byte restart slots throughout), the block exceeds the block size by at most 3 bytes: the
    15-byte allowance of the cut test covers a 4-byte restart slot, not an 8-byte one. -/
theorem C09_size_rule_big (cfg : WCfg) (es : List Entry)
    (hlen : ∀ e ∈ es, e.key.length < 2^32 ∧ e.val.length < 2^32)
    (B : List Entry) (hB : B ∈ splitBlocks cfg [] es) (B1 : List Entry) (e : Entry) (hsplit : B = B1 ++ [e])
    (hreg : (canonBlock cfg.interval B1).region.length > cfg.thr) :
    ((canonBlock cfg.interval B).encode cfg.thr).length < cfg.effBlockSize + 4 :=
  Mtbl.C09_size_rule_big cfg es hlen B hB B1 e hsplit hreg

/-- **C09 (cut rule).**  Block `j` was closed only because the first entry `(k, v)` of block `j + 1` made
    `block_builder_current_size_estimate(block j) + 15 + |k| + |v| ≥ block_size`; the estimate is exact, it is
    the length of the finished block. -/
theorem C09_cut_rule (cfg : WCfg) (es : List Entry) (j : Nat) (B : List Entry) (e : Entry) (t : List Entry)
    (hB : (splitBlocks cfg [] es)[j]? = some B) (hB' : (splitBlocks cfg [] es)[j + 1]? = some (e :: t)) :
    BB.estimate (BB.addAll (bb0 cfg) B) + 15 + e.key.length + e.val.length ≥ cfg.effBlockSize ∧
    ((canonBlock cfg.interval B).encode cfg.thr).length + 15 + e.key.length + e.val.length ≥ cfg.effBlockSize :=
  Mtbl.C09_cut_rule cfg es j B e t hB hB'

/-- **C09 (no early cut).**  Conversely, inside a block every entry but the first failed the cut test: the writer
    never closes a block earlier than the rule demands. -/
theorem C09_nocut_rule (cfg : WCfg) (es : List Entry) (B : List Entry) (hB : B ∈ splitBlocks cfg [] es)
    (B1 : List Entry) (e : Entry) (B2 : List Entry) (hsplit : B = B1 ++ e :: B2) (hne : B1 ≠ []) :
    ((canonBlock cfg.interval B1).encode cfg.thr).length + 15 + e.key.length + e.val.length < cfg.effBlockSize :=
  Mtbl.C09_nocut_rule cfg es B hB B1 e B2 hsplit hne

/-! ### non-vacuity: the five-block example (block size 32, interval 2, two foreign bytes) -/

set_option maxRecDepth 100000 in
example := C09_wellformed WriterEx.cfg id rfl (by decide) [0xAA, 0xBB] WriterEx.es WriterEx.sorted
  WriterEx.sizesOK.lens WriterEx.sizesOK.file

example := C09_wellformed WriterEx.cfgZ List.reverse rfl (by decide) [0xAA, 0xBB] WriterEx.es WriterEx.sorted
  WriterEx.sizesOKZ.lens WriterEx.sizesOKZ.file

/-- the premises of the size rule and of the cut rule are met in the example: blocks 0 and 3 hold two entries, and
    block 2 (one entry with a 40-byte value, 54 bytes encoded, larger than the 32-byte block size) shows why single-entry blocks are exempt -/
example : (splitBlocks WriterEx.cfg [] WriterEx.es).map List.length = [2, 1, 1, 2, 1] ∧
    (splitBlocks WriterEx.cfg [] WriterEx.es).map
      (fun B => ((canonBlock WriterEx.cfg.interval B).encode WriterEx.cfg.thr).length) = [18, 13, 54, 18, 14] ∧
    WriterEx.cfg.effBlockSize = 32 := by decide +kernel

example : [0xAA, 0xBB] ++ Writer.run WriterEx.cfg 2 C01.exAdds = (canonFile WriterEx.cfg [0xAA, 0xBB] WriterEx.es).encode id := by
  have := (C09_wellformed_any WriterEx.cfg id rfl (by decide) [0xAA, 0xBB] C01.exAdds
    (by rw [C01.exAdds_accepted]; exact WriterEx.sizesOK.lens)
    (by rw [C01.exAdds_accepted]; exact WriterEx.sizesOK.file)).1
  rw [C01.exAdds_accepted] at this
  exact this

end Mtbl.C09
