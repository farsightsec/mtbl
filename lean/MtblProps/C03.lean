import MtblProps.Common
/-
  C03 — Seek and continue: on every kind of iterator, every finite history of `next` / `seek` calls returns
  exactly what the abstract cursor over the sorted entry list returns; failure is sticky until the next seek.
  Proved for the reader with the F1 repair (`fixF1 := true`); `F1_witness` shows the pinned code
  (`fixF1 := false`) violating it on a two-block file.
-/
namespace Mtbl.C03

/-! ### on the writer's output -/

/-- **C03.**  On the file written from strictly increasing adds `es`: for every iterator kind (full, `get k`,
    `get_prefix p`, `get_range … k1`), every start key (`none` = `reader_iter`, from the first entry), and every
    finite history `ops` of `next` and `seek k` calls (any keys: present, absent, before the first, after the
    last, backwards, equal to the key just returned), the reader never aborts and returns exactly what the
    abstract cursor returns: `seek k` moves to `lowerBound es k`, `next` returns the entry under the cursor if it
    satisfies the kind's bound and fails (stickily) otherwise.  A NULL iterator is handed out only when no
    entry is at or after the start key. -/
theorem C03_history (cfg : WCfg) (comp : Bytes → Bytes) (decomp : Nat → Bytes → Option Bytes)
    (hw : WriterOK cfg comp decomp) (pre : Bytes) (es : List Entry) (hs : StrictSorted es)
    (hz : SizesOK cfg comp pre es) (verify : Bool) :
    ∃ r, readerOpen true cfg.thr decomp verify (pre ++ Writer.run cfg pre.length es) = .ok r ∧
      ∀ (kind : Kind) (start : Option Bytes),
        (readerIterInit true r start kind = some none ∧ lowerBound es (start.getD []) = es.length) ∨
        (∃ it₀, readerIterInit true r start kind = some (some it₀) ∧
          ∀ ops : List IOp,
            rRun it₀ ops = some (specRun kind es ⟨lowerBound es (start.getD []), false⟩ ops)) := by
  obtain ⟨r, t, hopen, ok, hent⟩ := hw.opens hs hz verify
  exact ⟨r, hopen, hent ▸ ok.history⟩

/-- **C03 (sticky failure).**  On the same file, for every iterator and after any history `ops`: if a `next`
    fails, every directly following `next` fails as well (until a `seek`). -/
theorem C03_sticky (cfg : WCfg) (comp : Bytes → Bytes) (decomp : Nat → Bytes → Option Bytes)
    (hw : WriterOK cfg comp decomp) (pre : Bytes) (es : List Entry) (hs : StrictSorted es)
    (hz : SizesOK cfg comp pre es) (verify : Bool) :
    ∃ r, readerOpen true cfg.thr decomp verify (pre ++ Writer.run cfg pre.length es) = .ok r ∧
      ∀ (kind : Kind) (start : Option Bytes) (it₀ : RIter),
        readerIterInit true r start kind = some (some it₀) →
        ∀ (ops : List IOp) (m : Nat) (out : List (Option Entry)),
          rRun it₀ (ops ++ .next :: List.replicate m .next) = some out →
          out[ops.length]? = some none →
          out.drop ops.length = List.replicate (m + 1) none := by
  obtain ⟨r, t, hopen, ok, _⟩ := hw.opens hs hz verify
  exact ⟨r, hopen, fun kind start it₀ h0 ops m out hrun hfail =>
    Mtbl.C03_sticky ok start kind h0 ops m hrun hfail⟩

/-! ### on any legal encoding -/

/-- **C03** on any legal encoding `f` (v1 or v2, any restart positions, sharing, separators, block split) -/
theorem C03_history_file (f : EFile) (comp : Bytes → Bytes) (decomp : Nat → Bytes → Option Bytes)
    (hf : FileOK f comp decomp) (verify : Bool) :
    ∃ r, readerOpen true f.thr decomp verify (f.encode comp) = .ok r ∧
      ∀ (kind : Kind) (start : Option Bytes),
        (readerIterInit true r start kind = some none ∧
          lowerBound f.entries (start.getD []) = f.entries.length) ∨
        (∃ it₀, readerIterInit true r start kind = some (some it₀) ∧
          ∀ ops : List IOp,
            rRun it₀ ops = some (specRun kind f.entries ⟨lowerBound f.entries (start.getD []), false⟩ ops)) := by
  obtain ⟨r, t, hopen, ok, hent⟩ := hf.opens verify
  exact ⟨r, hopen, hent ▸ ok.history⟩

/-- **C03 (sticky failure)** on any legal encoding -/
theorem C03_sticky_file (f : EFile) (comp : Bytes → Bytes) (decomp : Nat → Bytes → Option Bytes)
    (hf : FileOK f comp decomp) (verify : Bool) :
    ∃ r, readerOpen true f.thr decomp verify (f.encode comp) = .ok r ∧
      ∀ (kind : Kind) (start : Option Bytes) (it₀ : RIter),
        readerIterInit true r start kind = some (some it₀) →
        ∀ (ops : List IOp) (m : Nat) (out : List (Option Entry)),
          rRun it₀ (ops ++ .next :: List.replicate m .next) = some out →
          out[ops.length]? = some none →
          out.drop ops.length = List.replicate (m + 1) none := by
  obtain ⟨r, t, hopen, ok, _⟩ := hf.opens verify
  exact ⟨r, hopen, fun kind start it₀ h0 ops m out hrun hfail =>
    Mtbl.C03_sticky ok start kind h0 ops m hrun hfail⟩

/-- stickiness in terms of the abstract cursor: once stuck, `m` further `next` calls all fail -/
theorem C03_spec_sticky (kind : Kind) (es : List Entry) (m : Nat) (c : Cur) (h : c.stuck = true) :
    specRun kind es c (List.replicate m .next) = List.replicate m none :=
  RI.specRun_stuck kind es m c h

/-! ### finding F1: the pinned reader violates C03 -/

/-- `rRun` with the F1 switch exposed: `fixF1 = false` is `reader_iter_next` as pinned (the cached
    `block_offset` is not refreshed when the iterator moves into the next block), `true` the repaired one -/
def rRunWith (fixF1 : Bool) : RIter → List IOp → Option (List (Option Entry))
  | _, [] => some []
  | it, .next :: ops =>
    match rNext fixF1 it with
    | none => none
    | some (e, it') => (rRunWith fixF1 it' ops).map (e :: ·)
  | it, .seek k :: ops =>
    match rSeek it k with
    | none => none
    | some it' => (rRunWith fixF1 it' ops).map (none :: ·)

/-- with the repair, `rRunWith` is the `rRun` of the theorems above -/
theorem rRunWith_true (it : RIter) (ops : List IOp) : rRunWith true it ops = rRun it ops := by
  induction ops generalizing it with
  | nil => rfl
  | cons op ops ih =>
    cases op with
    | next =>
      simp only [rRunWith, rRun]
      cases rNext true it with
      | none => rfl
      | some p => simp only [ih]
    | seek k =>
      simp only [rRunWith, rRun]
      cases rSeek it k with
      | none => rfl
      | some it' => simp only [ih]

/-- open `file` (checksums verified, no compression), create an iterator of the given kind and start, run the history -/
def historyOn (fixF1 : Bool) (file : Bytes) (kind : Kind) (start : Option Bytes) (ops : List IOp) :
    Option (List (Option Entry)) :=
  match readerOpen true 4294967295 (fun _ _ => none) true file with
  | .ok r =>
    match readerIterInit fixF1 r start kind with
    | some (some it) => rRunWith fixF1 it ops
    | _ => none
  | _ => none

/-- the smallest block size: every entry gets its own data block -/
def f1Cfg : WCfg := { minBlockSize := 16, blockSize := 16 }

/-- two entries, two data blocks -/
def f1Es : List Entry := [⟨[1], [10]⟩, ⟨[2], [20]⟩]

/-- the file is written by the model of the real writer, and has two data blocks -/
theorem f1_two_blocks : (splitBlocks f1Cfg [] f1Es).map List.length = [1, 1] := by decide +kernel

/-- iterate across the block boundary, seek back to the key of the first block, `next` -/
def f1Ops : List IOp := [.next, .next, .seek [1], .next]

/-- **F1.**  On the two-block file written from `[1] ↦ [10]`, `[2] ↦ [20]`, the history
    `next, next, seek [1], next` on a full iterator must end with the entry `[1] ↦ [10]` (the abstract cursor,
    and the repaired reader, return it); the pinned reader returns `[2] ↦ [20]`, the first key of the block
    the iterator had moved into: `reader_iter_next` replaced the decoded block without refreshing the cached
    `block_offset`, so `reader_iter_seek` believes the first block is still loaded and seeks inside the wrong one. -/
theorem F1_witness :
    specRun .iter f1Es ⟨0, false⟩ f1Ops = [some ⟨[1], [10]⟩, some ⟨[2], [20]⟩, none, some ⟨[1], [10]⟩] ∧
    historyOn true (Writer.run f1Cfg 0 f1Es) .iter none f1Ops =
      some [some ⟨[1], [10]⟩, some ⟨[2], [20]⟩, none, some ⟨[1], [10]⟩] ∧
    historyOn false (Writer.run f1Cfg 0 f1Es) .iter none f1Ops =
      some [some ⟨[1], [10]⟩, some ⟨[2], [20]⟩, none, some ⟨[2], [20]⟩] := by
  decide +kernel

/-- **F1 on all four iterator kinds**: the same history on a full, a `get [1]`, a `get_prefix []` and a
    `get_range [1] [2]` iterator — the repaired reader agrees with the abstract cursor, the pinned one does not
    (the `get` iterator fails where it must find its key again). -/
theorem F1_witness_all_kinds :
    ∀ ks ∈ [(Kind.iter, (none : Option Bytes)), (.get [1], some [1]), (.pfx [], some []), (.range [2], some [1])],
      historyOn true (Writer.run f1Cfg 0 f1Es) ks.1 ks.2 f1Ops =
        some (specRun ks.1 f1Es ⟨lowerBound f1Es (ks.2.getD []), false⟩ f1Ops) ∧
      historyOn false (Writer.run f1Cfg 0 f1Es) ks.1 ks.2 f1Ops ≠
        some (specRun ks.1 f1Es ⟨lowerBound f1Es (ks.2.getD []), false⟩ f1Ops) := by
  decide +kernel

/-- **F1 behind a foreign prefix**: when the table does not start at file offset 0 the stale cached offset is
    first corrected by a `seek`, and the same defect shows one step later:
    `seek [1], next, next, seek [1], next` returns `[2] ↦ [20]` instead of `[1] ↦ [10]`. -/
theorem F1_witness_prefix :
    historyOn true ([0xAA, 0xBB] ++ Writer.run f1Cfg 2 f1Es) .iter none [.seek [1], .next, .next, .seek [1], .next] =
      some [none, some ⟨[1], [10]⟩, some ⟨[2], [20]⟩, none, some ⟨[1], [10]⟩] ∧
    historyOn false ([0xAA, 0xBB] ++ Writer.run f1Cfg 2 f1Es) .iter none [.seek [1], .next, .next, .seek [1], .next] =
      some [none, some ⟨[1], [10]⟩, some ⟨[2], [20]⟩, none, some ⟨[2], [20]⟩] := by
  decide +kernel

example (verify : Bool) := C03_history _ _ _ WriterEx.writerOK [0xAA, 0xBB] _ WriterEx.sorted WriterEx.sizesOK verify
example (verify : Bool) := C03_history _ _ _ WriterEx.writerOKZ [0xAA, 0xBB] _ WriterEx.sorted WriterEx.sizesOKZ verify
example (verify : Bool) := C03_sticky _ _ _ WriterEx.writerOK [0xAA, 0xBB] _ WriterEx.sorted WriterEx.sizesOK verify
example (ver : FVersion) (verify : Bool) := C03_history_file _ _ _ (FileEnc.exFile_ok ver) verify
example (ver : FVersion) (verify : Bool) := C03_sticky_file _ _ _ (FileEnc.exFile64_ok ver) verify

/-- the F1 file itself satisfies the hypotheses of `C03_history`, so for the repaired reader the witness history is
    an instance of the theorem -/
example : WriterOK f1Cfg id (fun _ _ => none) ∧ StrictSorted f1Es ∧ SizesOK f1Cfg id [] f1Es :=
  ⟨⟨rfl, fun h => absurd rfl h, by decide, by decide, by decide⟩, by unfold StrictSorted; decide +kernel,
   ⟨by decide +kernel, by decide +kernel, by decide +kernel, by decide +kernel, fun h => absurd rfl h⟩⟩

/-- a history on the five-block example that exercises every case of the cursor: seek to the key just returned,
    backward seek across blocks, seek between keys, seek past the end, run into the bound of a range iterator -/
example :
    specRun (.range [2]) WriterEx.es ⟨lowerBound WriterEx.es [1], false⟩
      [.next, .next, .seek [1, 2], .next, .seek [], .next, .seek [1, 5], .next, .next, .next, .seek [9], .next] =
    [some ⟨[1], [2, 3]⟩, some ⟨[1, 2], []⟩, none, some ⟨[1, 2], []⟩, none, some ⟨[], [1]⟩, none, some ⟨[2], [9]⟩,
     none, none, none, none] := by decide +kernel

end Mtbl.C03
