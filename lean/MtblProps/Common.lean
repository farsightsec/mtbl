import MtblProofs.WriterProofs
import MtblProofs.FileEncProofs
import MtblProofs.ReaderIterProofs
import MtblProofs.Glue
/-
  Hypothesis bundles shared by the property theorems C01, C02, C03, C09, C10, C11, and the two
  assembly steps every one of them starts with:
    * `WriterOK.opens` : the bytes the writer produced open, and decode to exactly the entries added  (E ∘ W)
    * `FileOK.opens`   : the bytes of any legal encoding open, and decode to exactly the encoded entries (E)
  W = the writer's output is the encoding of the canonical legal file (`W_refines_format`), E = every legal encoding
  opens to a `TableOK` table with the encoded entries, R = the reader iterators are correct on a `TableOK` table.
  Restart counts are bounded by `2^32 - 1`, not `2^32`: `blockInit` computes `(1 + n) % 2^32` from the count `n`.
-/
namespace Mtbl

/-- what the theorems assume about a writer configuration, its compressor and the reader's decompressor -/
structure WriterOK (cfg : WCfg) (comp : Bytes → Bytes) (decomp : Nat → Bytes → Option Bytes) : Prop where
  /-- the compressor does not fail -/
  comp_eq : cfg.comp = fun raw => some (comp raw)
  /-- library round trip (contract, = the part of C15 consumed here) -/
  codec : cfg.compression ≠ 0 → ∀ raw, decomp cfg.compression (comp raw) = some raw
  /-- restart interval 0 is excluded, as in the property text -/
  interval : 1 ≤ cfg.interval
  /-- the restart-width threshold is at most `UINT32_MAX` (it IS `UINT32_MAX` in block_builder.c) -/
  thr : cfg.thr < 2^32
  /-- the compression type fits its 64-bit trailer field -/
  compression_lt : cfg.compression < 2^64

/-- size side conditions on one run (all vacuous for files below 4 GiB / 2^64 bytes) -/
structure SizesOK (cfg : WCfg) (comp : Bytes → Bytes) (pre : Bytes) (es : List Entry) : Prop where
  /-- finding F11: longer entries are silently truncated by the C code -/
  lens : ∀ e ∈ es, e.key.length < 2^32 ∧ e.val.length < 2^32
  /-- the whole file (foreign prefix included) is shorter than 2^64 bytes -/
  file : ((canonFile cfg pre es).encode comp).length < 2^64
  /-- the restart count of every data block fits the 32-bit field at the end of the block
      (not a consequence of `file`: that only bounds it by 2^62) -/
  restarts : ∀ b ∈ (canonFile cfg pre es).blocks, b.restarts.length < 2^32 - 1
  /-- the same for the index block -/
  indexRestarts : (canonFile cfg pre es).indexRestarts.length < 2^32 - 1
  /-- with compression, the uncompressed size of every data block is below 2^64
      (not a consequence of `file`, which only sees the compressed bytes) -/
  raw : cfg.compression ≠ 0 → ∀ b ∈ (canonFile cfg pre es).blocks, (b.encode cfg.thr).length < 2^64

/-- for a table with fewer than 2^32 - 1 entries the two restart-count conditions hold by themselves, and without
    compression so does `raw`: what is left is "entries shorter than 4 GiB, file shorter than 2^64 bytes" -/
theorem SizesOK.of_small {cfg : WCfg} {comp : Bytes → Bytes} {pre : Bytes} {es : List Entry}
    (hi : 1 ≤ cfg.interval)
    (lens : ∀ e ∈ es, e.key.length < 2^32 ∧ e.val.length < 2^32)
    (file : ((canonFile cfg pre es).encode comp).length < 2^64)
    (count : es.length < 2^32 - 1)
    (raw : cfg.compression ≠ 0 → ∀ b ∈ (canonFile cfg pre es).blocks, (b.encode cfg.thr).length < 2^64) :
    SizesOK cfg comp pre es where
  lens := lens
  file := file
  restarts := Glue.canonFile_restarts_small cfg pre es hi count
  indexRestarts := Glue.canonFile_indexRestarts_small cfg pre es hi count
  raw := raw

/-- what the theorems assume about an encoding `f` made by the independent encoder, the compressor it was
    made with and the reader's decompressor: the choices are legal, the codec round-trips, and the size side
    conditions hold (the last five are vacuous for v2 files below 4 GiB) -/
structure FileOK (f : EFile) (comp : Bytes → Bytes) (decomp : Nat → Bytes → Option Bytes) : Prop where
  /-- restart points, shared-prefix lengths, separators, block split are legal choices -/
  legal : f.legal comp = true
  /-- library round trip (contract) -/
  codec : f.compression ≠ 0 → ∀ raw, decomp f.compression (comp raw) = some raw
  /-- restart-array width threshold: any value up to `UINT32_MAX` (small values force 64-bit restart arrays) -/
  thr : f.thr < 2^32
  /-- the whole file is shorter than 2^64 bytes -/
  size : (f.encode comp).length < 2^64
  restarts : ∀ b ∈ f.blocks, b.restarts.length < 2^32 - 1
  indexRestarts : f.indexRestarts.length < 2^32 - 1
  raw : f.compression ≠ 0 → ∀ b ∈ f.blocks, (b.encode f.thr).length < 2^64
  /-- version 1 stores block lengths in 32 bits -/
  v1 : f.version = .v1 →
    (∀ b ∈ f.blocks, (if f.compression = 0 then b.encode f.thr else comp (b.encode f.thr)).length < 2^32) ∧
    ((f.indexBlock comp).encode f.thr).length < 2^32
  compression_lt : f.compression < 2^64

/-- **E**: a legal encoding opens (with or without checksum verification) and decodes, block by block, to a
    table whose entries are exactly the encoded entries; the reader and the table are named -/
theorem FileOK.opens_explicit {f : EFile} {comp : Bytes → Bytes} {decomp : Nat → Bytes → Option Bytes}
    (h : FileOK f comp decomp) (verify : Bool) :
    readerOpen true f.thr decomp verify (f.encode comp) = .ok (FileEnc.openedRd f comp decomp verify) ∧
    TableOK (FileEnc.openedRd f comp decomp verify) (FileEnc.tview f comp) ∧
    (FileEnc.tview f comp).entries = f.entries :=
  EFile.open_ok_explicit f comp decomp verify h.legal h.codec h.thr h.size h.restarts h.indexRestarts h.raw
    h.v1 h.compression_lt

theorem FileOK.opens {f : EFile} {comp : Bytes → Bytes} {decomp : Nat → Bytes → Option Bytes}
    (h : FileOK f comp decomp) (verify : Bool) :
    ∃ r t, readerOpen true f.thr decomp verify (f.encode comp) = .ok r ∧ TableOK r t ∧ t.entries = f.entries :=
  ⟨_, _, h.opens_explicit verify⟩

theorem WriterOK.fileOK {cfg : WCfg} {comp : Bytes → Bytes} {decomp : Nat → Bytes → Option Bytes}
    (hw : WriterOK cfg comp decomp) {pre : Bytes} {es : List Entry} (hs : StrictSorted es)
    (hz : SizesOK cfg comp pre es) : FileOK (canonFile cfg pre es) comp decomp where
  legal := canonFile_legal cfg comp pre es hw.interval hs hz.lens hz.file
  codec := hw.codec
  thr := hw.thr
  size := hz.file
  restarts := hz.restarts
  indexRestarts := hz.indexRestarts
  raw := hz.raw
  v1 := fun h => by cases h
  compression_lt := hw.compression_lt

/-- **E ∘ W**: the bytes the writer produced for strictly increasing adds (after any foreign prefix) open, and
    decode to a table whose entries are exactly the entries added -/
theorem WriterOK.opens {cfg : WCfg} {comp : Bytes → Bytes} {decomp : Nat → Bytes → Option Bytes}
    (hw : WriterOK cfg comp decomp) {pre : Bytes} {es : List Entry} (hs : StrictSorted es)
    (hz : SizesOK cfg comp pre es) (verify : Bool) :
    ∃ r t, readerOpen true cfg.thr decomp verify (pre ++ Writer.run cfg pre.length es) = .ok r ∧
      TableOK r t ∧ t.entries = es := by
  rw [W_refines_format cfg comp hw.comp_eq pre es hs]
  obtain ⟨r, t, h1, h2, h3⟩ := (hw.fileOK hs hz).opens verify
  exact ⟨r, t, h1, h2, h3.trans (canonFile_entries cfg pre es)⟩

theorem WriterOK.opens_any {cfg : WCfg} {comp : Bytes → Bytes} {decomp : Nat → Bytes → Option Bytes}
    (hw : WriterOK cfg comp decomp) {pre : Bytes} (adds : List Entry)
    (hz : SizesOK cfg comp pre (acceptedOf none adds)) (verify : Bool) :
    ∃ r t, readerOpen true cfg.thr decomp verify (pre ++ Writer.run cfg pre.length adds) = .ok r ∧
      TableOK r t ∧ t.entries = acceptedOf none adds := by
  have e : Writer.run cfg pre.length adds = Writer.run cfg pre.length (acceptedOf none adds) :=
    congrArg W.finish (C08_history_state cfg pre.length adds)
  rw [e]
  exact hw.opens (C08_accepted_sorted adds) hz verify

/-! ### the reader-side consequences of `TableOK`, in the disjunctive form the property theorems use
    (NULL iterator / real iterator), so that each property is `opens` followed by one of these -/

section Served
variable {r : Rd} {t : TableView}

theorem TableOK.iterate (ok : TableOK r t) :
    (t.entries = [] ∧ readerIterInit true r none .iter = some none) ∨
    (∃ it₀, readerIterInit true r none .iter = some (some it₀) ∧
      (∀ m, rRun it₀ (List.replicate m .next) = some (RI.drainOut t.entries m)) ∧
      rRun it₀ (List.replicate (t.entries.length + 1) .next) = some (t.entries.map some ++ [none])) := by
  rcases readerIterInit_spec ok none .iter with ⟨h0, _⟩ | ⟨it, h0, _, _⟩
  · exact Or.inl ⟨C01_null ok h0, h0⟩
  · exact Or.inr ⟨it, h0, fun m => C01_iterate_m ok h0 m, C01_iterate ok h0⟩

/-- `mtbl_source_get` -/
theorem TableOK.get (ok : TableOK r t) (k : Bytes) :
    ((t.entries.filter fun e => bcmp e.key k == .eq) = [] ∧
      readerIterInit true r (some k) (.get k) = some none) ∨
    (∃ it₀, readerIterInit true r (some k) (.get k) = some (some it₀) ∧
      ∀ m, rRun it₀ (List.replicate m .next) =
        some (RI.drainOut (t.entries.filter fun e => bcmp e.key k == .eq) m)) :=
  ok.select (.get k) k (RI.filter_get ok.sorted k)

/-- `mtbl_source_get_prefix` -/
theorem TableOK.prefix (ok : TableOK r t) (p : Bytes) :
    ((t.entries.filter fun e => isPrefix p e.key) = [] ∧
      readerIterInit true r (some p) (.pfx p) = some none) ∨
    (∃ it₀, readerIterInit true r (some p) (.pfx p) = some (some it₀) ∧
      ∀ m, rRun it₀ (List.replicate m .next) =
        some (RI.drainOut (t.entries.filter fun e => isPrefix p e.key) m)) :=
  ok.select (.pfx p) p (RI.filter_pfx ok.sorted p)

/-- `mtbl_source_get_range` -/
theorem TableOK.range (ok : TableOK r t) (k0 k1 : Bytes) :
    ((t.entries.filter fun e => ble k0 e.key && ble e.key k1) = [] ∧
      readerIterInit true r (some k0) (.range k1) = some none) ∨
    (∃ it₀, readerIterInit true r (some k0) (.range k1) = some (some it₀) ∧
      ∀ m, rRun it₀ (List.replicate m .next) =
        some (RI.drainOut (t.entries.filter fun e => ble k0 e.key && ble e.key k1) m)) :=
  ok.select (.range k1) k0 (RI.filter_range ok.sorted k0 k1)

theorem TableOK.history (ok : TableOK r t) (kind : Kind) (start : Option Bytes) :
    (readerIterInit true r start kind = some none ∧
      lowerBound t.entries (start.getD []) = t.entries.length) ∨
    (∃ it₀, readerIterInit true r start kind = some (some it₀) ∧
      ∀ ops, rRun it₀ ops = some (specRun kind t.entries ⟨lowerBound t.entries (start.getD []), false⟩ ops)) := by
  rcases readerIterInit_spec ok start kind with ⟨h0, h1⟩ | ⟨it, h0, _, _⟩
  · exact Or.inl ⟨h0, h1⟩
  · exact Or.inr ⟨it, h0, fun ops => C03_history ok start kind h0 ops⟩

end Served

/-! ### non-vacuity: the worked five-block example of WriterProofs satisfies both bundles -/

theorem WriterEx.writerOK : WriterOK WriterEx.cfg id (fun _ _ => none) where
  comp_eq := rfl
  codec := fun h => absurd rfl h
  interval := by decide
  thr := by decide
  compression_lt := by decide

theorem WriterEx.sizesOK : SizesOK WriterEx.cfg id [0xAA, 0xBB] WriterEx.es :=
  .of_small (by decide) (by decide +kernel) (by decide +kernel) (by decide +kernel) fun h => absurd rfl h

/-- the same run through the toy compressor (`compression = 1`, every data block stored reversed) -/
theorem WriterEx.writerOKZ : WriterOK WriterEx.cfgZ List.reverse (fun _ s => some s.reverse) where
  comp_eq := rfl
  codec := fun _ raw => by simp
  interval := by decide
  thr := by decide
  compression_lt := by decide

theorem WriterEx.sizesOKZ : SizesOK WriterEx.cfgZ List.reverse [0xAA, 0xBB] WriterEx.es :=
  .of_small (by decide) (by decide +kernel) (by decide +kernel) (by decide +kernel) fun _ => by decide +kernel

theorem WriterEx.sorted : StrictSorted WriterEx.es := by unfold StrictSorted; decide +kernel


/-- the two-block example of FileEncProofs (non-maximal sharing, a separator that is not a key, two foreign
    bytes) satisfies `FileOK`, as v1 and as v2 -/
theorem FileEnc.exFile_ok (ver : FVersion) : FileOK (FileEnc.exFile ver) id (fun _ _ => none) where
  legal := by cases ver <;> decide +kernel
  codec := fun h => absurd rfl h
  thr := by cases ver <;> decide +kernel
  size := by cases ver <;> decide +kernel
  restarts := by cases ver <;> decide +kernel
  indexRestarts := by cases ver <;> decide +kernel
  raw := fun h => absurd rfl h
  v1 := by
    cases ver
    · exact fun _ => by decide +kernel
    · exact nofun
  compression_lt := by cases ver <;> decide +kernel

/-- the same file with restart-width threshold 8: every block's entry region is longer than 8 bytes, so all three
    blocks (two data blocks, index block) carry 64-bit restart arrays -/
def FileEnc.exFile64 (ver : FVersion) : EFile := { FileEnc.exFile ver with thr := 8 }

example : ∀ b ∈ (FileEnc.exFile64 .v2).blocks, b.region.length > (FileEnc.exFile64 .v2).thr := by decide +kernel
example : ((FileEnc.exFile64 .v2).indexBlock id).region.length > (FileEnc.exFile64 .v2).thr := by decide +kernel

theorem FileEnc.exFile64_ok (ver : FVersion) : FileOK (FileEnc.exFile64 ver) id (fun _ _ => none) where
  legal := by cases ver <;> decide +kernel
  codec := fun h => absurd rfl h
  thr := by cases ver <;> decide +kernel
  size := by cases ver <;> decide +kernel
  restarts := by cases ver <;> decide +kernel
  indexRestarts := by cases ver <;> decide +kernel
  raw := fun h => absurd rfl h
  v1 := by
    cases ver
    · exact fun _ => by decide +kernel
    · exact nofun
  compression_lt := by cases ver <;> decide +kernel

end Mtbl
