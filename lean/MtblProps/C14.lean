import MtblProofs.TpProofs
import MtblProofs.AccessProofs
import MtblProofs.OwnerProofs
import MtblProofs.TpKNoRace
/-
  C14 — No data races in the concurrent uses the API allows (pool part).
  A race state = two different threads each have an enabled step, the two steps touch a common location, at least one
  writes it, and no mutex is held by both.  No reachable state of the pool machine is a race state — for every pool
  size, job count, ordered or unordered delivery, every schedule, spurious wake-ups included.

  The access labels of the machine are tied to mtbl/threadpool.c by a table REGENERATED FROM THE C SOURCE on every run
  (Mtbl.Generated.accessSites): `C14_sites_declared` and `C14_declared_in_model` below re-check it.

  SEVERAL CLIENTS ON ONE POOL: `TpK.C14.C14_norace_shared` at the end of this file is the same statement for the k-client
  machine (MtblModel/TpK.lean: the pool owner, any number of clients each with its caller and result handler, the shared
  workers), which runs in lockstep with threadpool.c under the deterministic scheduler (`tpmulti` family).

  PARTIAL (DESIGN.md §8 C14), by nature: the C11 memory model is not formalised (a race state is defined by locksets); the
  writer/sorter field partition (`C14_writer_*`, `C14_sorter_*`), reader immutability
  (`C14_reader_immutable`) and the single writer of the CRC function pointer (`C14_crc_pointer`) are table theorems over
  tables regenerated from the C source on every run, plus the same run-time check.
-/
namespace Tp.C14
variable {max njobs : Nat} {ordered : Bool} {s : St}

theorem C14_norace (hm : 1 ≤ max) (hr : Reachable max njobs ordered s) :
    ∀ w1 w2, raceBetween s w1 w2 = false := Tp.C14_norace hm hr

/-- every access site of the current threadpool.c is declared in the site table -/
theorem C14_sites_declared :
    Mtbl.Generated.accessSites.all (fun s => declared.any (fun d => d.1 == s)) = true := sites_declared

/-- every declared site belonging to a machine step is labelled on that step with exactly the C code's lock set -/
theorem C14_declared_in_model : declared.all (fun d => siteInModel d.1 d.2) = true := declared_in_model

/-- the locking discipline of the pool's and the result queue's shared fields -/
theorem C14_pool_fields_locked : declared.all (fun d =>
    !(d.1.obj == "threadpool" && (d.1.field == "head" || d.1.field == "count")) || d.1.locks.contains "pool" ||
      d.2 == .setup) = true := pool_fields_locked
theorem C14_queue_fields_locked : declared.all (fun d =>
    !(d.1.obj == "resultq") || d.1.locks.contains "rq" || d.2 == .setup || d.2 == .teardown) = true :=
  queue_fields_locked

/-- the reader is immutable after open and iterators own what they write: every assignment to a field of
    struct mtbl_reader or struct block in reader.c / block.c sits in a constructor or destructor; all other assignments go
    to a reader_iter or block_iter (table regenerated from the source on every run) -/
theorem C14_reader_immutable : Mtbl.Generated.readerWrites.all (fun s =>
    s.obj == "reader_iter" || s.obj == "block_iter" || readerCtors.contains s.fn) = true := reader_immutable

/-! ### pooled writer and sorter: the caller and the result-handler thread touch disjoint fields until the join
  (tables `Mtbl.Generated.writerSites` / `sorterSites`, regenerated from mtbl/writer.c and mtbl/sorter.c; roles and
  predicates in MtblProofs/OwnerProofs.lean) -/
open Mtbl.Owner Mtbl.Generated in
theorem C14_writer_partition :
    classified writerRoles writerSites = true ∧ partitioned writerRoles writerSites = true ∧
    immutableOk writerRoles writerSites = true :=
  ⟨writer_classified, writer_partitioned, writer_immutable⟩
open Mtbl.Owner Mtbl.Generated in
theorem C14_writer_join_first :
    afterMarker writerRoles writerSites "_mtbl_writer_finish" "<join>" = true ∧
    afterMarker writerRoles writerSites "mtbl_writer_destroy" "<call:_mtbl_writer_finish>" = true :=
  ⟨writer_finish_joins_first, writer_destroy_finishes_first⟩
open Mtbl.Owner Mtbl.Generated in
theorem C14_sorter_partition :
    classified sorterRoles sorterSites = true ∧ partitioned sorterRoles sorterSites = true ∧
    immutableOk sorterRoles sorterSites = true :=
  ⟨sorter_classified, sorter_partitioned, sorter_immutable⟩
open Mtbl.Owner Mtbl.Generated in
theorem C14_sorter_join_first :
    afterMarker sorterRoles sorterSites "mtbl_sorter_iter" "<join>" = true ∧
    afterMarker sorterRoles sorterSites "mtbl_sorter_destroy" "<join>" = true :=
  ⟨sorter_iter_joins_first, sorter_destroy_joins_first⟩
/-- the CRC implementation pointer has a single writer (the detection function, a constructor) and two possible values -/
theorem C14_crc_pointer :
    Mtbl.Generated.crcDetectionIsConstructor = true ∧
    Mtbl.Generated.crcPointerWrites.all (fun w => (w.2.1 == "<init>" && w.2.2 == "my_crc32c_first") ||
      (w.1 == "libmy/crc32c.c" && w.2.1 == "my_crc32c_runtime_detection" &&
        (w.2.2 == "my_crc32c_sse42" || w.2.2 == "my_crc32c_slicing"))) = true := Mtbl.Owner.crc_pointer_single_writer
example : (Mtbl.Owner.handlerFields Mtbl.Owner.writerRoles Mtbl.Generated.writerSites).contains "pending_offset" = true ∧
    (Mtbl.Owner.handlerFields Mtbl.Owner.sorterRoles Mtbl.Generated.sorterSites).contains "readers" = true :=
  Mtbl.Owner.handler_fields_nonempty

/-- non-vacuity: the race predicate does fire on a machine state outside the reachable set (the caller assigning a job
    to a thread whose worker is in its unlocked section) -/
def racyState : St :=
  { max := 1, njobs := 2, ordered := true, count := 1, cpc := CPc.assign 0,
    thr := #[{ pc := WPc.gotJob, cb := some 0, running := true }] }
example : raceBetween racyState .caller (.worker 0) = true := by decide

end Tp.C14

/-! ### several clients sharing one pool (k-client machine, `MtblModel/TpK.lean`)
  The access labels are those of the one-client machine (`Tp.accesses`, tied to threadpool.c by `C14_declared_in_model`)
  evaluated on each thread's view of the k-client state and relabelled with the client's own queue and its mutex. -/
namespace TpK.C14

/-- **C14, pool part, any number of clients.**  No reachable state of the k-client machine is a race state: for every number
    of clients sharing the pool, every pool size, job count, ordered or unordered delivery and every schedule (spurious
    wake-ups and the choice of the sleeper a signal wakes included), no two different threads — the pool owner, a client's
    caller, a client's result handler, a worker — have enabled steps that touch a common location, at least one writing,
    with no mutex held by both. -/
theorem C14_norace_shared {n max njobs : Nat} {o : Bool} {s : St} (hr : Reachable n max njobs o s) :
    ∀ w1 w2, raceBetweenK s w1 w2 = false := norace_reachable hr

/-- in particular no access of one client's caller (`false`) or result handler (`true`) conflicts with an access of another
    client's caller or handler (enabled or not) -/
theorem C14_no_cross_client_race {n max njobs : Nat} {o : Bool} {s : St} (hr : Reachable n max njobs o s)
    {c1 c2 : Nat} (h1 : c1 < s.cl.size) (h2 : c2 < s.cl.size) (hne : c1 ≠ c2) (r1 r2 : Bool) :
    ∀ a ∈ clientAccesses s c1 r1, ∀ b ∈ clientAccesses s c2 r2, kConflict a b = false :=
  no_cross_client_race hr h1 h2 hne r1 r2

/-- … and a worker thread working for client c (held by c, or carrying an unordered job of c) never conflicts with the caller
    or handler of a different client -/
theorem C14_no_worker_client_race {n max njobs : Nat} {o : Bool} {s : St} (hr : Reachable n max njobs o s)
    {t c c' : Nat} (hc : c < s.cl.size) (hc' : c' < s.cl.size) (hne : c ≠ c') (hw : worksFor s t c) (r : Bool) :
    ∀ a ∈ workerAccesses s t, ∀ b ∈ clientAccesses s c' r, kConflict a b = false :=
  no_worker_client_race hr hc hc' hne hw r

/-- the domain facts hold in EVERY state (no invariant needed): a client's caller and handler touch only pool fields under
    pool->m, fields of their own queue under its mutex, and fields of worker threads the client holds (or of an idle thread,
    under pool->m) -/
theorem C14_client_domain (s : St) (c : Nat) (r : Bool) : (clientAccesses s c r).all (inDomain s c) = true := by
  cases r
  · exact caller_inDomain s c
  · exact handler_inDomain s c

/-- non-vacuity: the race predicate fires outside the reachable set (two clients both holding worker 0: one reads its
    `running` flag without a lock while the other writes it) -/
example : raceBetweenK twoHolders (.client 0) (.client 1) = true := by decide

end TpK.C14

namespace Mtbl.C14sig
open Mtbl.Generated in
/-- every `pthread_cond_signal(&x->c)` of threadpool.c (table `signalLocks`, regenerated from the source on every run: the
    lock/unlock calls of each function in text order) is issued while the caller holds `x->m`.  A signal issued after the
    unlock would race with the thread it wakes: the result handler destroys its queue's condition variable and frees the
    queue as soon as it sees `finished && nthreads == 0`, a worker told to exit is joined and freed — an unsynchronised
    access to (possibly freed) `x->c`.  The machines model each signal as part of the critical section it sits in; this is
    the part of that modelling decision that is checked against the code. -/
theorem C14_signals_under_mutex :
    signalLocks.all (fun s => s.2.2.contains s.2.1) = true ∧ signalLocks.length = signalSites.length :=
  ⟨Mtbl.Owner.signals_under_their_mutex.2.1, Mtbl.Owner.signals_under_their_mutex.1⟩
end Mtbl.C14sig
