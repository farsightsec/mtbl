import MtblProofs.WriteAllProofs
/-
  C20 — Short writes and EINTR interruptions of write(2) never change the file; a hard write error stops the
  process loudly and is never reported as success.

  `writeAll buf script` is the model of `_write_all(fd, buf, size)` in mtbl/writer.c as a function of the outcomes
  of the successive write(2) calls (`WOut`: `full`, `short n`, `eintr`, `zero`, `error`; outcomes beyond the end
  of the script are `full`).  The result records the bytes the descriptor received (`accepted`), the
  `(offset, size)` of every write(2) issued (`calls`), and whether the function returned normally (`ok`) or an
  assertion stopped the process.  `_write_all` returns void: the only way it reports anything is by not returning.

  Termination: the loop of the model consumes one outcome per iteration of the C loop and the script is a finite
  list, so the recursion is on `script.length`; after the script every write is `full`, which ends the loop.  An
  infinite run of EINTRs (on which the C loop spins for ever) is outside the model: the theorems speak about every
  FINITE pattern of interruptions and short writes.
-/
namespace Mtbl.C20

/-- for EVERY benign outcome stream — any number of EINTRs, short writes of any positive length, in any order —
    `_write_all` returns normally and the descriptor has received exactly the buffer -/
theorem C20_bytes (buf : Bytes) (script : List WOut) (hb : benign script) (hne : buf ≠ []) :
    (writeAll buf script).ok = true ∧ (writeAll buf script).accepted = buf := Mtbl.C20_bytes buf script hb hne

/-- … i.e. byte-identical to the run in which every write completes in full (the empty script) -/
theorem C20_bytes_eq_full (buf : Bytes) (script : List WOut) (hb : benign script) (hne : buf ≠ []) :
    (writeAll buf script).accepted = (writeAll buf []).accepted ∧
    (writeAll buf script).ok = (writeAll buf []).ok := by
  rw [(C20_bytes buf script hb hne).1, (C20_bytes buf script hb hne).2, (C20_bytes buf [] WA.benign_nil hne).1,
    (C20_bytes buf [] WA.benign_nil hne).2]
  exact ⟨rfl, rfl⟩

/-- every write(2) the loop issues is for exactly the not-yet-accepted suffix of the buffer.
    `CallChain L off cs script` says: the first call of `cs` is `(off, L - off)` with `off < L`, and the rest is a
    chain starting at `off + got`, where `got` is the number of bytes the outcome consumed by this call accepted
    (`WOut.got`: `full ↦ size`, `short n ↦ min n size`, everything else `↦ 0`). -/
theorem C20_calls (buf : Bytes) (script : List WOut) :
    CallChain buf.length 0 (writeAll buf script).calls script := Mtbl.C20_calls buf script

/-- the same, index by index: call `i` is `(off, size)` with `off + size = |buf|` and `size > 0`; the first offset
    is 0; offset `i+1` = offset `i` + bytes accepted by call `i` (which consumed outcome `i` of the script).
    A loop that forgot `buf += n` (offset always 0) breaks the last clause at the first short write, one that forgot
    `size -= n` breaks the first clause. -/
theorem C20_calls_index (buf : Bytes) (script : List WOut) (i : Nat)
    (hi : i < (writeAll buf script).calls.length) :
    ((writeAll buf script).calls[i]).1 + ((writeAll buf script).calls[i]).2 = buf.length ∧
    0 < ((writeAll buf script).calls[i]).2 ∧
    (i = 0 → ((writeAll buf script).calls[i]).1 = 0) ∧
    (∀ hi' : i + 1 < (writeAll buf script).calls.length,
      ((writeAll buf script).calls[i + 1]).1 =
        ((writeAll buf script).calls[i]).1 + (script.getD i .full).got ((writeAll buf script).calls[i]).2) :=
  have hc := C20_calls buf script
  have := WA.chain_getElem _ _ _ _ hc i hi
  ⟨this.1, this.2.1, fun h0 => by subst h0; exact WA.chain_head _ _ _ _ hc hi, this.2.2.2⟩

/-- offsets never go backwards -/
theorem C20_calls_mono (buf : Bytes) (script : List WOut) (i : Nat)
    (hi' : i + 1 < (writeAll buf script).calls.length) :
    ((writeAll buf script).calls[i]).1 ≤ ((writeAll buf script).calls[i + 1]).1 :=
  by
  rw [(C20_calls_index buf script i (Nat.lt_of_succ_lt hi')).2.2.2 hi']
  exact Nat.le_add_right _ _

/-- NO script at all makes `_write_all` return normally with anything but the whole buffer written -/
theorem C20_never_false_success (buf : Bytes) (script : List WOut) :
    (writeAll buf script).ok = true → (writeAll buf script).accepted = buf :=
  Mtbl.C20_never_false_success buf script

/-- every script: normal return with exactly `buf` on the descriptor, or the process stopped -/
theorem C20_dichotomy (buf : Bytes) (script : List WOut) :
    ((writeAll buf script).ok = true ∧ (writeAll buf script).accepted = buf) ∨ (writeAll buf script).ok = false :=
  by
  cases h : (writeAll buf script).ok
  · exact .inr rfl
  · exact .inl ⟨rfl, C20_never_false_success buf script h⟩

/-- a hard error stops the process: if, after a benign prefix that leaves bytes outstanding
    (`remaining |buf| pre > 0`), write(2) returns 0 (`zero`, or a "short write" of 0 bytes) or fails with an errno
    other than EINTR (`error`), the assertion fires; the descriptor holds exactly the bytes accepted so far and no
    further outcome is consumed -/
theorem C20_error (buf : Bytes) (pre : List WOut) (bad : WOut) (post : List WOut)
    (hb : benign pre) (hbad : bad = .zero ∨ bad = .error ∨ bad = .short 0)
    (hrem : 0 < remaining buf.length pre) :
    (writeAll buf (pre ++ bad :: post)).ok = false ∧
    (writeAll buf (pre ++ bad :: post)).rest = post ∧
    (writeAll buf (pre ++ bad :: post)).accepted = buf.take (buf.length - remaining buf.length pre) :=
  Mtbl.C20_error buf pre bad post hb hbad hrem

/-- the side condition of `C20_error` is exact: when the benign prefix already completes the buffer, the loop has
    ended and whatever follows in the script is not looked at -/
theorem C20_error_unreached (buf : Bytes) (pre tl : List WOut) (hne : buf ≠ [])
    (hb : benign pre) (hrem : remaining buf.length pre = 0) :
    (writeAll buf (pre ++ tl)).ok = true ∧ (writeAll buf (pre ++ tl)).accepted = buf :=
  by
  have hl : 0 < buf.length := List.length_pos_iff.2 hne
  rw [writeAll, if_neg (Nat.ne_of_gt hl)]
  exact (WA.go_prefix buf 0 pre tl { rest := pre ++ tl } hb hl).2 hrem

/-- also when it aborts: what reached the descriptor is a prefix of the buffer (nothing is written twice, nothing
    is skipped) -/
theorem C20_accepted_prefix (buf : Bytes) (script : List WOut) :
    (writeAll buf script).accepted <+: buf := Mtbl.C20_accepted_prefix buf script

/-- `_write_all` asserts `size > 0`: an empty buffer stops the process … -/
theorem writeAll_empty (script : List WOut) : (writeAll [] script).ok = false := rfl

/-- … and the writer never passes one: length varint ≥ 1 byte, checksum 4 bytes, stored block non-empty -/
theorem frameWrites_nonempty (stored : Bytes) (h : stored ≠ []) : ∀ b ∈ frameWrites stored, b ≠ [] :=
  Mtbl.frameWrites_nonempty stored h

/-- (block builder output is never empty: it ends with the 4-byte restart count; the trailer is 512 bytes) -/
theorem BB_finish_ne_nil (b : BB) : b.finish ≠ [] := Mtbl.BB_finish_ne_nil b
theorem Meta_write_length (m : Meta) : m.write.length = 512 := Mtbl.Meta_write_length m

/-- every write(2) consumes exactly one outcome: `rest` is the script minus one outcome per call issued
    (so a sequence of `_write_all` calls sees each outcome exactly once) -/
theorem writeAll_rest (buf : Bytes) (script : List WOut) :
    (writeAll buf script).rest = script.drop (writeAll buf script).calls.length := Mtbl.writeAll_rest buf script

/-- the three buffers written per block are the block frame of the format -/
theorem C20_frame (stored : Bytes) : (frameWrites stored).flatten = frame stored := Mtbl.C20_frame stored

/-- a whole sequence of `_write_all` calls against ONE outcome stream: under every benign fragmentation all of
    them return and the descriptor has received the concatenation of the buffers -/
theorem C20_many (bufs : List Bytes) (script : List WOut) (hb : benign script) (hne : ∀ b ∈ bufs, b ≠ []) :
    (writeMany bufs script {}).ok = true ∧ (writeMany bufs script {}).accepted = bufs.flatten :=
  Mtbl.C20_many bufs script hb hne

/-- file level, ANY script: normal completion ⇒ exactly the intended bytes -/
theorem C20_many_never_false_success (bufs : List Bytes) (script : List WOut)
    (hok : (writeMany bufs script {}).ok = true) : (writeMany bufs script {}).accepted = bufs.flatten :=
  by simpa using WA.many_ok bufs script {} hok

/-- file level, ANY script: what reached the descriptor is a prefix of the intended byte stream -/
theorem C20_many_prefix (bufs : List Bytes) (script : List WOut) :
    (writeMany bufs script {}).accepted <+: bufs.flatten := by
  obtain ⟨t, ht, he⟩ := WA.many_prefix bufs script {}
  rw [he]; simpa using ht

/-- a whole file = three writes per block (data blocks, then the index block) and one for the trailer
    (`fileWrites`); its bytes do not depend on how write(2) fragments them -/
theorem C20_file (blocks : List Bytes) (trailer : Bytes) (script : List WOut) (hb : benign script)
    (hblocks : ∀ b ∈ blocks, b ≠ []) (htr : trailer ≠ []) :
    (writeMany (fileWrites blocks trailer) script {}).ok = true ∧
    (writeMany (fileWrites blocks trailer) script {}).accepted = (blocks.map frame).flatten ++ trailer :=
  Mtbl.C20_file blocks trailer script hb hblocks htr

/-- link to the writer model: `W.flush` appends nothing or exactly one block's three buffers (and without
    compression the stored block is non-empty) … -/
theorem C20_flush_writes (w : W) :
    w.flush.out = w.out ∨
    ∃ stored, w.flush.out = w.out ++ (frameWrites stored).flatten ∧ (w.cfg.compression = 0 → stored ≠ []) :=
  Mtbl.C20_flush_writes w

/-- … and `W.finish` = the flushed output followed by the index block's three writes and the trailer write, which
    arrive unchanged under every benign fragmentation -/
theorem C20_finish (w : W) (script : List WOut) (hb : benign script) :
    (writeMany (fileWrites [w.flush.index.finish] w.finishMeta.write) script {}).ok = true ∧
    w.flush.out ++ (writeMany (fileWrites [w.flush.index.finish] w.finishMeta.write) script {}).accepted
      = w.finish := Mtbl.C20_finish w script hb

/-- five bytes, two EINTRs before and three between two short writes: all five arrive, every retry re-issues the
    same suffix -/
example :
    writeAll [1, 2, 3, 4, 5] [.eintr, .short 2, .eintr, .eintr, .short 1, .full] =
      { accepted := [1, 2, 3, 4, 5], calls := [(0, 5), (0, 5), (2, 3), (2, 3), (2, 3), (3, 2)], ok := true, rest := [] } := by
  decide +kernel

/-- an I/O error after two accepted bytes: the process stops, two bytes are on the descriptor -/
example :
    writeAll [1, 2, 3, 4, 5] [.short 2, .error, .full] =
      { accepted := [1, 2], calls := [(0, 5), (2, 3)], ok := false, rest := [.full] } := by
  decide +kernel

end Mtbl.C20
