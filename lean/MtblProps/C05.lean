import MtblProofs.MergerSeekProofs
/-
  C05 — Merger lookups and seeks behave like one table holding the merged content.
  `c.fixF2 = c.fixF8 = true` is the repaired code (finding F8: the pinned code takes the forward path for a seek to
  the key just returned and skips it).  Seeks are at or after the start of the iterator's range (`bcmp lo k ≠ .gt`),
  as the property requires; `seek_below_start_witness` shows the hypothesis is necessary for bounded iterators.
-/
namespace Mtbl.C05
open MergerSeek

/-- after ANY state reachable by next/seek histories (invariants `MInv`, `SeekInv`), `seek k` leaves the merger holding
    exactly what the live sources hold at or after `k`, and the invariants again — for every `k` at/after the start -/
theorem C05_seek (c : MCfg) (hF8 : c.fixF8 = true)
    (htot : ∀ a b, hle c a b = true ∨ hle c b a = true)
    (htrans : ∀ a b d, hle c a b = true → hle c b d = true → hle c a d = true)
    (lo : Bytes) {m : MIter} (hi : MInv c m) (hs : SeekInv lo m) (k : Bytes) (hlo : bcmp lo k ≠ .gt) :
    MInv c (mergerSeek c m k) ∧ SeekInv lo (mergerSeek c m k) ∧
    (pool (mergerSeek c m k)).Perm (m.live.flatMap fun i => ((m.srcs[i]!).seek k).remaining) ∧
    SFrame m (mergerSeek c m k) := mergerSeek_inv c hF8 htot htrans lo hi hs k hlo

/-- both invariants hold initially and are preserved by `next` (either merge mode, any outcome) -/
theorem C05_inv_init (c : MCfg) (tables : List (List Entry)) (kind : Kind) (start : Bytes) {m : MIter}
    (h : mergerIter c tables kind start = some m) : SeekInv start m ∧ m.curKey = [] :=
  mergerIter_seekInv c tables kind start h

theorem C05_inv_next (c : MCfg) (hF2 : c.fixF2 = true)
    (htot : ∀ a b, hle c a b = true ∨ hle c b a = true)
    (htrans : ∀ a b d, hle c a b = true → hle c b d = true → hle c a d = true)
    (lo : Bytes) {m : MIter} (hi : MInv c m) (hs : SeekInv lo m) : SeekInv lo (mergerNext c m).2 :=
  mergerNext_seekInv c hF2 htot htrans lo hi hs

/-- seek then iterate to the end, with a merge function: exactly the merged view of what the sources hold at/after `k`
    (keys once each, ascending, values = folds over all values of the key) -/
theorem C05_seek_drain (c : MCfg) (hF2 : c.fixF2 = true) (hF8 : c.fixF8 = true)
    (htot : ∀ a b, hle c a b = true ∨ hle c b a = true)
    (htrans : ∀ a b d, hle c a b = true → hle c b d = true → hle c a d = true)
    (lo : Bytes) {m : MIter} {f : Bytes → Bytes → Bytes → Option Bytes}
    (hi : MInv c m) (hs : SeekInv lo m) (hm : c.merge = some f) (hok : ∀ k a b, f k a b ≠ none)
    (k : Bytes) (hlo : bcmp lo k ≠ .gt) (fuel : Nat)
    (hfuel : (m.live.flatMap fun i => ((m.srcs[i]!).seek k).remaining).length < fuel) :
    IsMerged f (m.live.flatMap fun i => ((m.srcs[i]!).seek k).remaining)
      (mergerDrain c fuel (mergerSeek c m k)) :=
  Mtbl.C05_seek_drain c hF2 hF8 htot htrans lo hi hs hm hok k hlo fuel hfuel

theorem C05_seek_drain_nomerge (c : MCfg) (hF2 : c.fixF2 = true) (hF8 : c.fixF8 = true)
    (htot : ∀ a b, hle c a b = true ∨ hle c b a = true)
    (htrans : ∀ a b d, hle c a b = true → hle c b d = true → hle c a d = true)
    (lo : Bytes) {m : MIter} (hi : MInv c m) (hs : SeekInv lo m) (hm : c.merge = none)
    (k : Bytes) (hlo : bcmp lo k ≠ .gt) (fuel : Nat)
    (hfuel : (m.live.flatMap fun i => ((m.srcs[i]!).seek k).remaining).length < fuel) :
    (mergerDrain c fuel (mergerSeek c m k)).Perm (m.live.flatMap fun i => ((m.srcs[i]!).seek k).remaining) ∧
    Sorted (mergerDrain c fuel (mergerSeek c m k)) :=
  Mtbl.C05_seek_drain_nomerge c hF2 hF8 htot htrans lo hi hs hm k hlo fuel hfuel

/-- get / get_prefix / get_range on a merger source: exactly the merged view of the entries satisfying the bound
    ("filtering by key commutes with merging"); a NULL iterator iff no source holds such a key -/
theorem C05_lookup (c : MCfg) (hF2 : c.fixF2 = true)
    (htot : ∀ a b, hle c a b = true ∨ hle c b a = true)
    (htrans : ∀ a b d, hle c a b = true → hle c b d = true → hle c a d = true)
    {f : Bytes → Bytes → Bytes → Option Bytes} (hm : c.merge = some f) (hok : ∀ k a b, f k a b ≠ none)
    (tables : List (List Entry)) (hs : ∀ es ∈ tables, Sorted es) (kind : Kind) (start : Bytes)
    (hst : startOk kind start) :
    let T := tables.flatten.filter fun e => lookP kind start e.key
    (mergerIter c tables kind start = none ↔ kind ≠ .iter ∧ T = []) ∧
    ∀ m, mergerIter c tables kind start = some m → ∀ fuel, T.length < fuel →
      IsMerged f T (mergerDrain c fuel m) :=
  Mtbl.C05_lookup c hF2 htot htrans hm hok tables hs kind start hst

theorem C05_lookup_nomerge (c : MCfg) (hF2 : c.fixF2 = true)
    (htot : ∀ a b, hle c a b = true ∨ hle c b a = true)
    (htrans : ∀ a b d, hle c a b = true → hle c b d = true → hle c a d = true)
    (hm : c.merge = none)
    (tables : List (List Entry)) (hs : ∀ es ∈ tables, Sorted es) (kind : Kind) (start : Bytes)
    (hst : startOk kind start) {m : MIter} (hmi : mergerIter c tables kind start = some m)
    (fuel : Nat) (hfuel : (tables.flatten.filter fun e => lookP kind start e.key).length < fuel) :
    (mergerDrain c fuel m).Perm (tables.flatten.filter fun e => lookP kind start e.key) ∧
    Sorted (mergerDrain c fuel m) :=
  Mtbl.C05_lookup_nomerge c hF2 htot htrans hm tables hs kind start hst hmi fuel hfuel

/-- EVERY finite history of next and seek on a merger iterator returns the keys a single table holding the merged
    content `K` would return, and every returned value is a fold of all values of its key -/
theorem C05_history (c : MCfg) (hF2 : c.fixF2 = true) (hF8 : c.fixF8 = true)
    (htot : ∀ a b, hle c a b = true ∨ hle c b a = true)
    (htrans : ∀ a b d, hle c a b = true → hle c b d = true → hle c a d = true)
    {f : Bytes → Bytes → Bytes → Option Bytes} (hm : c.merge = some f) (hok : ∀ k a b, f k a b ≠ none)
    (tables : List (List Entry)) (hs : ∀ es ∈ tables, Sorted es)
    (K : List Entry) (hK : StrictSorted K)
    (hKeys : ∀ k, (∃ e ∈ K, e.key = k) ↔ (∃ e ∈ tables.flatten, e.key = k))
    {m0 : MIter} (h0 : mergerIter c tables .iter [] = some m0) (ops : List IOp) :
    (mRun c m0 ops).map (Option.map (·.key)) = (specRun .iter K { pos := 0 } ops).map (Option.map (·.key)) ∧
    ∀ e, some e ∈ mRun c m0 ops →
      ∃ l, l.Perm (valuesOf e.key tables.flatten) ∧ foldl1? f e.key l = some e.val :=
  Mtbl.C05_history c hF2 hF8 htot htrans hm hok tables hs K hK hKeys h0 ops

/- For the bounded kinds the per-operation refinement (C05_seek, C05_inv_next, C04_step) is proved for every kind and
   start key; the assembled `specRun` equality is stated for `.iter` only (C05_history). -/

/-- finding F8: seek to the key just returned; the pinned code returns the key AFTER it -/
theorem F8_witness :
    let srcs : Array Src := #[{ es := [⟨[97], [49]⟩, ⟨[98], [50]⟩, ⟨[99], [51]⟩] }]
    let bad : MCfg := { merge := none, dupsort := none, fixF8 := false }
    let good : MCfg := { merge := none, dupsort := none, fixF8 := true }
    let run (c : MCfg) : NextRes × NextRes × NextRes :=
      let m0 := mergerInit c srcs
      let r1 := mergerNext c m0
      let r2 := mergerNext c r1.2
      let m3 := mergerSeek c r2.2 [98]
      (r1.1, r2.1, (mergerNext c m3).1)
    run bad = (.ok [97] [49], .ok [98] [50], .ok [99] [51]) ∧
    run good = (.ok [97] [49], .ok [98] [50], .ok [98] [50]) ∧
    (specRun .iter [⟨[97], [49]⟩, ⟨[98], [50]⟩, ⟨[99], [51]⟩] { pos := 0 }
      [.next, .next, .seek [98], .next]) =
      [some ⟨[97], [49]⟩, some ⟨[98], [50]⟩, none, some ⟨[98], [50]⟩] := Mtbl.F8_witness

end Mtbl.C05
