import MtblProofs.CompressProofs
/-
  C15 — the compression wrappers (mtbl/compression.c) over the contracts of the external libraries.

  Model: MtblModel/Compress.lean.  `compress b`/`decompress b` carry one flag each: `false` = the pinned code with
  defect F4 (zlib destination `2 * n`) resp. F5 (zstd content size 0 refused), `true` = the repaired code.
  TRUSTED: the record `LibOK` (what snappy, zlib, lz4, zstd are assumed to do) and the list of non-modelled
  assumptions at the head of the model file (allocation succeeds, `deflateInit`/`inflateInit`/`deflateEnd` succeed).
  Outcomes: `ok out`, `fail` (mtbl_res_failure), `abort` (an assertion fired), `wrap` (a 32-bit z_stream counter
  would overflow — the model stops tracking the C code there; only zlib, only at gigabyte sizes).
-/
namespace Mtbl.C15
open Mtbl.Cz

/-- C15, main statement (repaired code).  For every library meeting the contracts, every algorithm, every level
    (`none` = `mtbl_compress`, `some l` = `mtbl_compress_level` with ANY integer `l`) and every input of at most
    INT_MAX bytes whose worst-case compressed size passes the wrappers' own size tests (`Fits`: zlib
    `4 * deflateBound + 1024 < 2^32`, lz4 `LZ4_compressBound + 4 ≤ INT_MAX`, zstd `ZSTD_compressBound ≤ INT_MAX`,
    snappy nothing): the call reports failure, or it succeeds and `mtbl_decompress` returns exactly the input.
    In particular it is never `abort` and never `wrap`. -/
theorem C15_roundtrip {L : Lib} (h : LibOK L) (a : Algo) (ha : a ≠ .none) (level : Option Int) (input : Bytes)
    (hn : input.length ≤ INT_MAX) (hfit : Fits true L a (effLevel L a level) input.length) :
    compress true L a level input = .fail ∨
      ∃ out, compress true L a level input = .ok out ∧ decompress true L a out = .ok input :=
  Cz.C15_roundtrip h a ha level input hn hfit

/-- the same without `Fits`: every bound function below `n + n/4 + 1024` (true of all four libraries) and the input
    at most 512 MiB — covers "empty, a few bytes, incompressible, highly compressible, megabytes" -/
theorem C15_roundtrip_512MiB {L : Lib} (h : LibOK L) (hb : BoundSane L) (a : Algo) (ha : a ≠ .none)
    (level : Option Int) (input : Bytes) (hn : input.length ≤ 536870912) :
    compress true L a level input = .fail ∨
      ∃ out, compress true L a level input = .ok out ∧ decompress true L a out = .ok input :=
  Cz.C15_roundtrip h a ha level input (by simp only [INT_MAX]; omega) (fits_of_boundSane hb a _ _ hn)

/-- the pinned code satisfies the statement exactly away from F4 (`deflateBound n ≤ 2 n`, false for small `n`) and
    F5 (the empty input under zstd) -/
theorem C15_roundtrip_pinned_partial {L : Lib} (h : LibOK L) (a : Algo) (ha : a ≠ .none) (level : Option Int)
    (input : Bytes) (hn : input.length ≤ INT_MAX) (hfit : Fits false L a (effLevel L a level) input.length)
    (h4 : a = .zlib → L.deflateBound (effLevel L .zlib level) input.length ≤ 2 * input.length)
    (h5 : a = .zstd → input.length ≠ 0) :
    compress false L a level input = .fail ∨
      ∃ out, compress false L a level input = .ok out ∧ decompress false L a out = .ok input :=
  roundtrip_gen false false h a ha level input hn hfit (fun _ => h4) (fun _ => h5)

/-- No abort.  (1) compress: for inputs of ANY size with snappy, lz4, lz4hc, zstd; with zlib as long as the input
    length and `deflateBound` of it are below 2^32 — `zlib_wrap_witness` shows the condition is needed: the
    repaired wrapper still assigns `deflateBound(n)` to the 32-bit `avail_out`.
    (2) decompress of whatever a successful compress returned (sizes as in `C15_roundtrip`).
    (3) decompress of ARBITRARY bytes with snappy, lz4, lz4hc, zstd (repaired zstd wrapper). -/
theorem C15_never_abort {L : Lib} (h : LibOK L) (a : Algo) (level : Option Int) (input : Bytes) :
    ((a = .zlib → input.length < U32 ∧ L.deflateBound (effLevel L .zlib level) input.length < U32) →
      compress true L a level input ≠ .abort ∧ compress true L a level input ≠ .wrap) ∧
    (input.length ≤ INT_MAX → Fits true L a (effLevel L a level) input.length →
      ∀ out, compress true L a level input = .ok out →
        decompress true L a out ≠ .abort ∧ decompress true L a out ≠ .wrap) ∧
    (a ≠ .zlib → ∀ stored, decompress true L a stored ≠ .abort ∧ decompress true L a stored ≠ .wrap) :=
  by
  refine ⟨fun hz => ?_, fun hn hfit out hc => ?_, fun ha stored => ?_⟩
  · have := compress_graceful h a level input hz
    constructor <;> (intro e; rw [e] at this; cases this)
  · rw [decompress_of_compress h a level input out hn hfit hc]
    constructor <;> (intro e; cases e)
  · have := decompress_graceful_of_ne_zlib L a ha stored
    constructor <;> (intro e; rw [e] at this; cases this)

/-- MTBL_COMPRESSION_NONE and enum values outside 0..5 are refused by all three entry points, in both versions -/
theorem C15_none_unknown (f : Bool) (L : Lib) (level : Option Int) (buf : Bytes) :
    compress f L .none level buf = .fail ∧ decompress f L .none buf = .fail ∧
    (∀ t, 6 ≤ t → compressT f L t level buf = .fail ∧ decompressT f L t buf = .fail) ∧
    (∀ a, compressT f L a.toNat level buf = compress f L a level buf ∧
          decompressT f L a.toNat buf = decompress f L a buf) :=
  ⟨rfl, rfl, fun t ht => ⟨compressT_unknown f L t ht level buf, decompressT_unknown f L t ht buf⟩,
    fun a => by cases a <;> exact ⟨rfl, rfl⟩⟩

/-- the level handed to the library: defaults -1 / 9 / 9, clamping per algorithm (the zstd default 9 is clamped like
    any other level); snappy and lz4 ignore the level; `compress` sees the level only through `effLevel` -/
theorem C15_levels (L : Lib) (l : Int) :
    effLevel L .zlib none = -1 ∧
    effLevel L .zlib (some l) = (if l < -1 then 0 else if l > 9 then 9 else l) ∧
    effLevel L .lz4hc none = 9 ∧
    effLevel L .lz4hc (some l) = (if l < 0 then 0 else l) ∧
    effLevel L .zstd none = (if 9 < L.zstdMin then L.zstdMin else if 9 > L.zstdMax then L.zstdMax else 9) ∧
    effLevel L .zstd (some l) = (if l < L.zstdMin then L.zstdMin else if l > L.zstdMax then L.zstdMax else l) ∧
    (∀ f l₁ l₂ input, compress f L .snappy l₁ input = compress f L .snappy l₂ input) ∧
    (∀ f l₁ l₂ input, compress f L .lz4 l₁ input = compress f L .lz4 l₂ input) ∧
    (∀ f a l₁ l₂ input, effLevel L a l₁ = effLevel L a l₂ → compress f L a l₁ input = compress f L a l₂ input) :=
  ⟨rfl, rfl, rfl, rfl, rfl, rfl, fun f => compress_snappy_level f L, fun f => compress_lz4_level f L,
    fun f a l₁ l₂ input => compress_level_congr f L a l₁ l₂ input⟩

/-- the level the library receives is always one it accepts -/
theorem C15_level_ranges (L : Lib) (l : Option Int) :
    (-1 ≤ effLevel L .zlib l ∧ effLevel L .zlib l ≤ 9) ∧ 0 ≤ effLevel L .lz4hc l ∧
    (L.zstdMin ≤ L.zstdMax → L.zstdMin ≤ effLevel L .zstd l ∧ effLevel L .zstd l ≤ L.zstdMax) :=
  ⟨effLevel_zlib_range L l, effLevel_lz4hc_range L l, fun h => effLevel_zstd_range L h l⟩

/-- what reaches the library, per algorithm (level, capacity, framing) -/
theorem C15_calls (f : Bool) (L : Lib) (l : Option Int) (input : Bytes) :
    (compress f L .snappy l input =
      match L.comp .snappy 0 (L.bound .snappy input.length) input with
      | some o => .ok o
      | none => .fail) ∧
    (compress f L .zlib l input =
      let cap := if f then L.deflateBound (effLevel L .zlib l) input.length else 2 * input.length
      if input.length ≥ U32 ∨ cap ≥ U32 then .wrap
      else match L.comp .zlib (effLevel L .zlib l) cap input with
        | some o => .ok o
        | none => .abort) ∧
    (compress f L .lz4 l input =
      if input.length > INT_MAX then .fail
      else match L.comp .lz4 0 (L.bound .lz4 input.length) input with
        | none => .fail
        | some o => if o.isEmpty then .fail else .ok (fixed32 input.length ++ o)) ∧
    (compress f L .lz4hc l input =
      if input.length > INT_MAX then .fail
      else match L.comp .lz4hc (effLevel L .lz4hc l) (L.bound .lz4 input.length) input with
        | none => .fail
        | some o => if o.isEmpty then .fail else .ok (fixed32 input.length ++ o)) ∧
    (compress f L .zstd l input =
      if input.length > INT_MAX then .fail
      else match L.comp .zstd (effLevel L .zstd l)
          (if L.bound .zstd input.length < INT_MAX / 2 then 2 * L.bound .zstd input.length
           else L.bound .zstd input.length) input with
        | some o => .ok o
        | none => .fail) :=
  ⟨compress_snappy f L l input, compress_zlib f L l input, compress_lz4 f L l input, compress_lz4hc f L l input,
    compress_zstd f L l input⟩

/-- names: every enum value has a name that reads back as that value; values ≥ 6 have no name (NULL); a string is
    accepted with value `t` IFF its A–Z-folded form is the name of `t` (so any letter case is accepted and every
    other string is refused) -/
theorem C15_names :
    (∀ t, t < 6 → ∃ s, typeToStr t = some s ∧ typeFromStr s = some t) ∧
    (∀ t, 6 ≤ t → typeToStr t = none) ∧
    (∀ s t, typeFromStr s = some t ↔ typeToStr t = some s.toLower) ∧
    (∀ s t, typeFromStr s = some t → t < 6) ∧
    (∀ s, typeFromStr s = none ↔ ∀ t, typeToStr t ≠ some s.toLower) :=
  Cz.C15_names

/-- F4 reproduced in the model: a library meeting every contract for which the pinned zlib wrapper aborts on three
    bytes; the repaired wrapper round-trips them -/
theorem F4_witness : ∃ L, LibOK L ∧ compress false L .zlib none [1, 2, 3] = .abort ∧
    ∃ out, compress true L .zlib none [1, 2, 3] = .ok out ∧ decompress true L .zlib out = .ok [1, 2, 3] :=
  Cz.F4_witness

/-- F5 reproduced in the model: compress("") succeeds, the pinned zstd decompressor reports failure on the result,
    the repaired one returns the empty buffer -/
theorem F5_witness : ∃ L, LibOK L ∧ ∃ out, compress false L .zstd none [] = .ok out ∧
    compress true L .zstd none [] = .ok out ∧
    decompress false L .zstd out = .fail ∧ decompress true L .zstd out = .ok [] :=
  Cz.F5_witness

/-- the zlib size condition of `C15_never_abort` is needed (repaired code, 4 GiB - 11 bytes) -/
theorem zlib_wrap_witness : compress true toy .zlib none (List.replicate (U32 - 11) 0) = .wrap := Cz.zlib_wrap_witness

/-- the contracts are satisfiable, and the main theorem has an instance in which compress always succeeds -/
theorem LibOK_inhabited : LibOK toy ∧ BoundSane toy := ⟨toy_ok, toy_boundSane⟩

example : compress true toy .zstd (some 100) [7, 7, 7] = .ok [3, 0, 0, 0, 7, 7, 7] ∧
    decompress true toy .zstd [3, 0, 0, 0, 7, 7, 7] = .ok [7, 7, 7] := ⟨by decide, by decide⟩

end Mtbl.C15
