import MtblProofs.TpKOrder
import MtblProofs.TpKWake
/-
  The k-client pool machine, UNORDERED delivery (the mode pooled sorters use): for every client and every job number, the
  result is in exactly one place — delivered, in the handler's hands, on a thread in the client's result queue, or on a worker
  still carrying it — if the job has been dispatched, and nowhere otherwise; nothing else is ever delivered.  Consequences:
  each client is delivered every result at most once, only results of its own jobs, and all of them by the time its thread
  has returned (as a permutation of the submissions).  For every number of clients sharing the pool and every schedule.
  First: workers only work for clients whose handler exists (`WF2`: the worker–client pairs are well formed).
-/
namespace TpK

theorem sumA_zero_of {α : Type} [Inhabited α] (a : Array α) (f : α → Nat) (h : ∀ c : Nat, f a[c]! = 0) : sumA a f = 0 :=
  sumA_zero a f h

theorem sumA_eq_zero_term {α : Type} [Inhabited α] (a : Array α) (f : α → Nat) (h : sumA a f = 0) (t : Nat) (ht : t < a.size) :
    f a[t]! = 0 := by
  have := sumA_le a f t ht; omega

theorem sumA_mono {α : Type} (a : Array α) (f g : α → Nat) (h : ∀ x, f x ≤ g x) : sumA a f ≤ sumA a g := by
  unfold sumA
  induction a.toList with
  | nil => simp
  | cons x l ih => simp only [List.map_cons, List.sum_cons]; have := h x; omega

def preH (pc : CPc) : Bool := match pc with | .idle | .start | .mkH => true | _ => false

/-- workers only work for clients whose handler exists -/
def WF2 (s : St) : Prop := ∀ t c : Nat, (s.thr[t]!.rq = some c ∨ s.thr[t]!.pc = .selfEnq c) → c < s.cl.size ∧ preH s.cl[c]!.pc = false

theorem works_wakeW (th : Thr) (c : Nat) :
    ((wakeW th).rq = some c ∨ (wakeW th).pc = .selfEnq c) ↔ (th.rq = some c ∨ th.pc = .selfEnq c) := by
  unfold wakeW
  split
  · rename_i h; simp [h]
  · rfl

theorem wf2_congr {s s' : St} (h : WF2 s) (e2 : s'.cl = s.cl := by rfl) (e3 : s'.thr = s.thr := by rfl) : WF2 s' := by
  intro u c hu
  rw [e3] at hu; rw [e2]; exact h u c hu

theorem wf2_setThr {s : St} (t : Nat) (g : Thr → Thr) (h : WF2 s)
    (hg : ∀ c, ((g s.thr[t]!).rq = some c ∨ (g s.thr[t]!).pc = .selfEnq c) → (s.thr[t]!.rq = some c ∨ s.thr[t]!.pc = .selfEnq c)) :
    WF2 (setThr s t g) := by
  intro u c hu
  show c < s.cl.size ∧ preH s.cl[c]!.pc = false
  rw [thr_setThr] at hu
  split at hu
  · rename_i hh; rw [hh.1] at hu; exact h t c (hg c hu)
  · exact h u c hu

theorem wf2_setCl {s : St} (c0 : Nat) (f : Client → Client) (h : WF2 s)
    (hf : preH s.cl[c0]!.pc = false → preH (f s.cl[c0]!).pc = false) : WF2 (setCl s c0 f) := by
  intro u c hu
  have := h u c hu
  refine ⟨by simpa using this.1, ?_⟩
  rw [cl_get_setCl]; split
  · rename_i hh; rw [hh.1] at this ⊢; exact hf this.2
  · exact this.2

theorem wf2_push {s s' : St} (h : WF2 s) (e2 : s'.cl = s.cl := by rfl) (e3 : s'.thr = s.thr.push {} := by rfl) : WF2 s' := by
  intro u c hu
  rw [e3, get_push] at hu
  rw [e2]
  split at hu
  · simp at hu
  · exact h u c hu

theorem wf2_signalThr {s : St} (t : Nat) (h : WF2 s) : WF2 (signalThr s t) := by
  intro u c hu
  rw [thr_signalThr] at hu
  have := h u c (by split at hu; exact (works_wakeW _ c).mp hu; exact hu)
  refine ⟨by simpa using this.1, ?_⟩
  rw [signalThr_cl, get_map, if_pos this.1, wakeH_pc]; exact this.2

theorem wf2_signalRq {s : St} (c : Nat) (h : WF2 s) : WF2 (signalRq s c) := by
  apply wf2_setCl c _ h
  intro hp; split <;> exact hp

theorem wf2_signalPool {s : St} (k : Nat) (h : WF2 s) : WF2 (signalPool s k) := by
  rcases signalPool_cases s k with ⟨_, e⟩ | ⟨_, e⟩ | ⟨c, _, _, e⟩ <;> rw [e]
  · exact h
  · exact h
  · exact wf2_setCl c _ h (fun _ => rfl)

theorem wf2_step {s s' : St} {l : Lbl} (hW : Wk s) (h : WF2 s) (hs : step s l = some s') : WF2 s' := by
  cases Step.of_step hs with
  | @spawn i _ ho =>
    -- nobody works for a client that has not been started
    intro u c hu
    have := h u c hu
    refine ⟨by simpa using this.1, ?_⟩
    show preH (s.cl.modify i _)[c]!.pc = false
    rw [get_modify]; split
    · rename_i hh; rw [hh.1, hW.fresh i i ho (Nat.le_refl _)] at this; cases this.2
    · exact this.2
  | joinC | destroyDone | destroySleep | destroyTake | joinW | spOwner => exact wf2_congr h
  | kill =>
    exact wf2_signalThr _ (wf2_congr (wf2_setThr _ (fun th => { th with running := true }) h (fun _ hx => hx)))
  | start _ hp => exact wf2_setCl _ _ h (fun hx => by rw [hp] at hx; cases hx)
  | mkH | nextDone | nextSleep | enqueueUnord | joinH | spClient => exact wf2_setCl _ _ h (fun _ => rfl)
  | nextTake | nextGrow => exact wf2_setCl _ _ (wf2_congr h) (fun _ => rfl)
  | create => exact wf2_setCl _ _ (wf2_push h) (fun _ => rfl)
  | @assign c _ t hc hp =>
    -- the thread now works for c (unordered), which is past the creation of its handler
    apply wf2_signalThr
    apply wf2_setCl c _ _ (fun _ => rfl)
    intro u c' hu
    show c' < s.cl.size ∧ preH s.cl[c']!.pc = false
    rw [thr_setThr] at hu
    split at hu
    · rename_i hh
      rcases hu with hx | hx
      · have : c' = c := by
          simp only at hx
          split at hx
          · cases hx
          · injection hx with hx; exact hx.symm
        rw [this]; exact ⟨hc, by rw [hp]; rfl⟩
      · rw [hh.1] at hx
        exact h t c' (Or.inr hx)
    · exact h u c' hu
  | enqueueOrd | finish => exact wf2_signalRq _ (wf2_setCl _ _ h (fun _ => rfl))
  | deqTake | deqExit | deqSleep | waitSleep | callback | spDeq | spWait => exact wf2_setCl _ _ h id
  | waitTake => exact wf2_setCl _ _ (wf2_setThr _ (fun th => { th with res := none }) h (fun _ hx => hx)) id
  | giveBack => exact wf2_signalPool _ (wf2_setCl _ _ (wf2_congr h) id)
  | wGo _ hp | wSleep _ hp | wExit _ hp | spWorker _ hp => exact wf2_setThr _ _ h (fun c hx => by simpa [hp] using hx)
  | wRunUnord _ _ _ hr => exact wf2_setThr _ _ h (fun c hx => Or.inl (by simpa [hr] using hx))
  | wRunOrd _ _ _ hr => exact wf2_setThr _ _ h (fun c hx => by simp [hr] at hx)
  | selfEnq =>
    exact wf2_signalRq _ (wf2_setCl _ _ (wf2_setThr _ (fun th => { th with pc := .top false }) h
      (fun c hx => hx.elim Or.inl (fun e => by cases e))) id)
  | doneOrd _ hp => exact wf2_signalThr _ (wf2_setThr _ _ h (fun c hx => by simpa [hp] using hx))

theorem wf2_init (n max njobs : Nat) (o : Bool) : WF2 (init n max njobs o) := by
  intro t c hx
  have e : (init n max njobs o).thr[t]! = default := by simp [init]
  rw [e] at hx
  rcases hx with hx | hx <;> cases hx

theorem wf2_reachable {n max njobs : Nat} {o : Bool} {s : St} (hr : Reachable n max njobs o s) : WF2 s := by
  induction hr with
  | init => exact wf2_init _ _ _ _
  | step hr' hs ih => exact wf2_step (wk_reachable hr') ih hs


/-- worker record `th` carries job `x` of client `c` (dispatched unordered, not yet in c's queue) -/
def wj (c : Nat) (x : Option Nat) (th : Thr) : Nat :=
  if (th.rq = some c ∨ th.pc = .selfEnq c) ∧ jobOf th = x then 1 else 0

/-- in how many places result `x` of client `c` is -/
def cntU (s : St) (c : Nat) (x : Option Nat) : Nat :=
  s.cl[c]!.delivered.count x + (hJob s.thr s.cl[c]!.hpc).count x +
    (s.cl[c]!.queue.map fun t => jobOf s.thr[t]!).count x + sumA s.thr (wj c x)

def want (cl : Client) (x : Option Nat) : Nat := match x with
  | some j => if j < cl.nextJob + pend cl.pc then 1 else 0
  | none => 0

/-- the first field of `UInv` (the second, `wf`, follows from `WF2`: `UInv.of`) -/
def UCnt (s : St) : Prop := ∀ (c : Nat) (x : Option Nat), cntU s c x = want s.cl[c]! x

structure UInv (s : St) : Prop where
  cnt : ∀ (c : Nat) (x : Option Nat), cntU s c x = want s.cl[c]! x
  wf : ∀ (t c : Nat), (s.thr[t]!.rq = some c ∨ s.thr[t]!.pc = .selfEnq c) → c < s.cl.size ∧ s.cl[c]!.pc ≠ .idle

def UOrd (s : St) : Prop := s.ordered = false → UInv s

theorem wj_default (c : Nat) (x : Option Nat) : wj c x (default : Thr) = 0 := by
  have h1 : (default : Thr).rq = none := rfl
  have h2 : (default : Thr).pc = .top false := rfl
  simp [wj, h1, h2]

theorem SFin.top {th : Thr} (h : SFin th) : isTop th.pc = true := h.1
theorem SFin.cb {th : Thr} (h : SFin th) : th.cb = none := h.2.2.1

theorem wj_of_rq_top {th : Thr} (hr : th.rq = none) (hp : isTop th.pc = true) (c : Nat) (x : Option Nat) : wj c x th = 0 := by
  have : th.pc ≠ .selfEnq c := by intro e; rw [e] at hp; cases hp
  simp [wj, hr, this]

def cntCl (thr : Array Thr) (cl : Client) (x : Option Nat) : Nat :=
  cl.delivered.count x + (hJob thr cl.hpc).count x + (cl.queue.map fun t => jobOf thr[t]!).count x

theorem cntU_eq (s : St) (c : Nat) (x : Option Nat) : cntU s c x = cntCl s.thr s.cl[c]! x + sumA s.thr (wj c x) := rfl

theorem cntCl_congr (thr thr' : Array Thr) (cl : Client) (x : Option Nat)
    (hq : ∀ t ∈ cl.queue, jobOf thr'[t]! = jobOf thr[t]!) (hh : ∀ t a, cl.hpc = .waitRes t a → jobOf thr'[t]! = jobOf thr[t]!) :
    cntCl thr' cl x = cntCl thr cl x := by
  unfold cntCl
  have h1 : cl.queue.map (fun t => jobOf thr'[t]!) = cl.queue.map (fun t => jobOf thr[t]!) := List.map_congr_left hq
  have h2 : hJob thr' cl.hpc = hJob thr cl.hpc := by
    cases hp : cl.hpc with
    | waitRes t a => simp only [hJob]; rw [hh t a hp]
    | _ => rfl
  rw [h1, h2]

theorem cntCl_wakeH (thr : Array Thr) (t : Nat) (cl : Client) (x : Option Nat) : cntCl thr (wakeH t cl) x = cntCl thr cl x := by
  rcases wakeH_cases t cl with ⟨_, e⟩ | ⟨h, e⟩ <;> rw [e]
  simp [cntCl, hJob, h]

theorem want_eq (cl cl' : Client) (x : Option Nat) (h : cl'.nextJob + pend cl'.pc = cl.nextJob + pend cl.pc) :
    want cl' x = want cl x := by
  cases x <;> simp only [want, h]

theorem want_wakeH (t : Nat) (cl : Client) (x : Option Nat) : want (wakeH t cl) x = want cl x :=
  want_eq _ _ x (by rw [wakeH_pc, wakeH_nextJob])

theorem want_succ (cl cl' : Client) (x : Option Nat) (h : cl'.nextJob + pend cl'.pc = cl.nextJob + pend cl.pc + 1) :
    want cl' x = want cl x + (if x = some (cl.nextJob + pend cl.pc) then 1 else 0) := by
  cases x with
  | none => simp [want]
  | some j =>
    simp only [want, h, Option.some.injEq]
    repeat' split
    all_goals omega

theorem UInv.of {s : St} (h : UCnt s) (hF : WF2 s) : UInv s :=
  ⟨h, fun t c hw => ⟨(hF t c hw).1, fun e => by have := (hF t c hw).2; rw [e] at this; cases this⟩⟩

theorem ucnt_congr {s s' : St} (h : UCnt s) (e2 : s'.cl = s.cl := by rfl) (e3 : s'.thr = s.thr := by rfl) : UCnt s' := by
  intro c x
  unfold cntU
  rw [e2, e3]; exact h c x

def wAny (c : Nat) (th : Thr) : Nat := if th.rq = some c ∨ th.pc = .selfEnq c then 1 else 0

theorem wAny_default (c : Nat) : wAny c (default : Thr) = 0 := by
  have h1 : (default : Thr).rq = none := rfl
  have h2 : (default : Thr).pc = .top false := rfl
  simp [wAny, h1, h2]

theorem wj_le_wAny (c : Nat) (x : Option Nat) (th : Thr) : wj c x th ≤ wAny c th := by
  unfold wj wAny
  split
  · rename_i hh; rw [if_pos hh.1]; exact Nat.le_refl _
  · split <;> omega

/-- nobody works for a client that has not been started -/
theorem WF2.nobody {s : St} (hF : WF2 s) {i : Nat} (hidle : s.cl[i]!.pc = .idle) : sumA s.thr (wAny i) = 0 :=
  sumA_zero _ _ fun t => by
    simp only [wAny]
    split
    · rename_i hh
      have := (hF t i hh).2
      rw [hidle] at this; cases this
    · rfl

/-- a signal on a thread's condition variable changes no sum over the thread records that does not see `top true` -/
theorem ucnt_setThr {s : St} (t : Nat) (g : Thr → Thr) (h : UCnt s)
    (hk : ∀ c, ((g s.thr[t]!).rq = some c ∨ (g s.thr[t]!).pc = .selfEnq c) ↔ (s.thr[t]!.rq = some c ∨ s.thr[t]!.pc = .selfEnq c))
    (hj : jobOf (g s.thr[t]!) = jobOf s.thr[t]!) : UCnt (setThr s t g) := by
  have hjob : ∀ u : Nat, jobOf (setThr s t g).thr[u]! = jobOf s.thr[u]! := by
    intro u; rw [thr_setThr]; split
    · rename_i hc; rw [hc.1]; exact hj
    · rfl
  intro c x
  rw [cntU_eq]
  show cntCl (setThr s t g).thr s.cl[c]! x + _ = want s.cl[c]! x
  rw [cntCl_congr s.thr _ _ x (fun u _ => hjob u) (fun u _ _ => hjob u), ← h c x, cntU_eq]
  have := sumA_setThr s t g (wj c x)
  have hw : wj c x (g s.thr[t]!) = wj c x s.thr[t]! := by simp only [wj, hk c, hj]
  rw [hw] at this
  omega

theorem cntU_setThr_free {s : St} {t : Nat} (g : Thr → Thr) (ht : t < s.thr.size) (c : Nat) (x : Option Nat)
    (hfree : t ∉ s.cl[c]!.queue ∧ ∀ a, s.cl[c]!.hpc ≠ .waitRes t a) :
    cntCl (s.thr.modify t g) s.cl[c]! x + sumA (s.thr.modify t g) (wj c x) + wj c x s.thr[t]! =
      cntU s c x + wj c x (g s.thr[t]!) := by
  have hjob : ∀ u : Nat, u ≠ t → jobOf (s.thr.modify t g)[u]! = jobOf s.thr[u]! := by
    intro u hu; rw [get_modify, if_neg (fun hx => hu hx.1)]
  have hcl : cntCl (s.thr.modify t g) s.cl[c]! x = cntCl s.thr s.cl[c]! x :=
    cntCl_congr _ _ _ x (fun u m => hjob u (fun e => hfree.1 (e ▸ m))) (fun u a e => hjob u (fun e' => hfree.2 a (e' ▸ e)))
  have := sumA_modify s.thr t g (wj c x) ht
  rw [cntU_eq, hcl]; omega

/-- `cls`, `thr` name the records of `X`, so that the side goals speak of `s.cl`, `s.thr.modify t g` and not of
    `(setThr s t g).cl`: unifying through the latter is slow -/
theorem ucnt_setCl_of {X : St} {cls : Array Client} {thr : Array Thr} (ecl : X.cl = cls) (ethr : X.thr = thr) (c0 : Nat)
    (f : Client → Client)
    (hothers : ∀ c x, ¬ (c = c0 ∧ c0 < cls.size) → cntCl thr cls[c]! x + sumA thr (wj c x) = want cls[c]! x)
    (hc : ∀ x, c0 < cls.size → cntCl thr (f cls[c0]!) x + sumA thr (wj c0 x) = want (f cls[c0]!) x) :
    UCnt (setCl X c0 f) := by
  subst ecl ethr
  intro c x
  rw [cntU_eq, cl_get_setCl]
  show cntCl X.thr _ x + sumA X.thr (wj c x) = _
  split
  · rename_i hh; rw [hh.1]; exact hc x hh.2
  · rename_i hh; exact hothers c x hh

theorem ucnt_setCl {s : St} (c0 : Nat) (f : Client → Client) (h : UCnt s)
    (hc : ∀ x, cntCl s.thr (f s.cl[c0]!) x = cntCl s.thr s.cl[c0]! x) (hw : ∀ x, want (f s.cl[c0]!) x = want s.cl[c0]! x) :
    UCnt (setCl s c0 f) :=
  ucnt_setCl_of rfl rfl c0 f (fun c x _ => h c x) (fun x _ => by rw [hc, hw]; exact h c0 x)

theorem ucnt_signalThr {s : St} (t : Nat) (h : UCnt s) : UCnt (signalThr s t) := by
  have hjob : ∀ u : Nat, jobOf (signalThr s t).thr[u]! = jobOf s.thr[u]! := by
    intro u; rw [thr_signalThr]; split
    · exact jobOf_wakeW _
    · rfl
  have hsum : ∀ c x, sumA (signalThr s t).thr (wj c x) = sumA s.thr (wj c x) := fun c x =>
    sumA_signalThr s t _ fun th => by simp only [wj, works_wakeW, jobOf_wakeW]
  intro c x
  rw [cntU_eq, hsum, cntCl_congr s.thr _ _ x (fun u _ => hjob u) (fun u _ _ => hjob u), signalThr_cl, get_map]
  split
  · rw [cntCl_wakeH, want_wakeH, ← h c x, cntU_eq]
  · rename_i hcs
    rw [← cl_oob s c hcs, ← h c x, cntU_eq]

theorem ucnt_signalRq {s : St} (c : Nat) (h : UCnt s) : UCnt (signalRq s c) := by
  apply ucnt_setCl c _ h
  · intro x
    cases hp : s.cl[c]!.hpc with
    | deq a => cases a <;> simp [cntCl, hJob, hp]
    | _ => simp
  · intro x; split <;> rfl

theorem ucnt_signalPool {s : St} (k : Nat) (h : UCnt s) : UCnt (signalPool s k) := by
  rcases signalPool_cases s k with ⟨_, e⟩ | ⟨_, e⟩ | ⟨c, _, hp, e⟩ <;> rw [e]
  · exact h
  · exact h
  · exact ucnt_setCl c _ h (fun _ => rfl) (fun x => want_eq _ _ x (by simp [pend, hp]))

theorem ucnt_push {s : St} (hE : Excl s) (h : UCnt s) : UCnt { s with thr := s.thr.push {} } := by
  have hjob : ∀ u : Nat, u < s.thr.size → jobOf (s.thr.push {})[u]! = jobOf s.thr[u]! := by
    intro u hu'; rw [get_push, if_neg (by omega)]
  intro c x
  rw [cntU_eq]
  show cntCl (s.thr.push {}) s.cl[c]! x + sumA (s.thr.push {}) (wj c x) = _
  have hz : wj c x ({} : Thr) = 0 := by simp [wj]
  rw [sumA_push, hz, cntCl_congr s.thr (s.thr.push {}) s.cl[c]! x
    (fun u m => hjob u (hE.client_lt (mem_view_queue (o := s.ordered) m)))
    (fun u a e => hjob u (hE.client_lt (mem_view_wait (o := s.ordered) e)))]
  exact h c x

theorem Excl.assign_free {s : St} (hE : Excl s) {c t : Nat} (hp : s.cl[c]!.pc = .assign t) (c' : Nat) :
    t ∉ s.cl[c']!.queue ∧ ∀ a, s.cl[c']!.hpc ≠ .waitRes t a := by
  obtain ⟨_, _, _, _, e5, e6⟩ := hE.client (mem_view_assign (o := s.ordered) hp)
  by_cases hcc : c' = c
  · subst hcc
    obtain ⟨q1, q2⟩ := count_view_assign hp e5
    exact ⟨q1, (not_wait_of_not_hHand q2).1⟩
  · exact ⟨fun m => e6 c' hcc (mem_view_queue m), fun a e => e6 c' hcc (mem_view_wait e)⟩

theorem Excl.wait_free {s : St} (hE : Excl s) {c t : Nat} {a : Bool} (hp : s.cl[c]!.hpc = .waitRes t a) (c' : Nat) :
    t ∉ s.cl[c']!.queue ∧ (c' ≠ c → ∀ b, s.cl[c']!.hpc ≠ .waitRes t b) := by
  obtain ⟨_, _, _, _, e5, e6⟩ := hE.client (mem_view_wait (o := s.ordered) hp)
  refine ⟨fun m => ?_, fun hcc _ e => e6 c' hcc (mem_view_wait e)⟩
  by_cases hcc : c' = c
  · subst hcc; exact (count_view_hHand (by simp [hp]) e5).2 m
  · exact e6 c' hcc (mem_view_queue m)

theorem Excl.self_free {s : St} (hE : Excl s) {t : Nat} (hw : 0 < wN s.thr[t]!) (c' : Nat) :
    t ∉ s.cl[c']!.queue ∧ ∀ a, s.cl[c']!.hpc ≠ .waitRes t a :=
  ⟨fun m => (hE.self hw).2.2 c' (mem_view_queue m), fun _ e => (hE.self hw).2.2 c' (mem_view_wait e)⟩

theorem Sh.selfEnq_rq {s : St} (hS : Sh s) {t c : Nat} (hp : s.thr[t]!.pc = .selfEnq c) :
    s.thr[t]!.rq = none ∧ s.thr[t]!.running = false ∧ s.ordered = false := by
  have hw : 0 < wN s.thr[t]! := by simp [wN, hp]
  obtain ⟨ho, hsw⟩ := (hS t).self hw
  rcases hsw with ⟨hh, _⟩ | ⟨_, r, _, _, d⟩
  · rcases hh with hh | hh <;> simp [hp, isTop] at hh
  · exact ⟨d, r, ho⟩

theorem ucnt_setThr_setCl {s : St} {t c : Nat} (g : Thr → Thr) (f : Client → Client) (h : UCnt s) (ht : t < s.thr.size)
    (hc : c < s.cl.size) (hfree : ∀ c', c' ≠ c → t ∉ s.cl[c']!.queue ∧ ∀ a, s.cl[c']!.hpc ≠ .waitRes t a)
    (hw : ∀ c' x, c' ≠ c → wj c' x (g s.thr[t]!) = wj c' x s.thr[t]!)
    (hf : ∀ x, cntCl (s.thr.modify t g) (f s.cl[c]!) x + sumA (s.thr.modify t g) (wj c x) = want (f s.cl[c]!) x) :
    UCnt (setCl (setThr s t g) c f) := by
  refine ucnt_setCl_of (X := setThr s t g) (cls := s.cl) (thr := s.thr.modify t g) rfl rfl c f (fun c' x hne => ?_)
    (fun x _ => hf x)
  have hne' : c' ≠ c := fun e => hne ⟨e, hc⟩
  have := cntU_setThr_free g ht c' x (hfree c' hne')
  rw [hw c' x hne'] at this
  exact (Nat.add_right_cancel this).trans (h c' x)

theorem cntCl_push (thr : Array Thr) (cl : Client) (t : Nat) (x : Option Nat) :
    cntCl thr { cl with queue := cl.queue ++ [t] } x = cntCl thr cl x + (if jobOf thr[t]! = x then 1 else 0) := by
  simp only [cntCl, List.map_append, List.count_append, List.map_cons, List.map_nil, List.count_cons, List.count_nil,
    beq_iff_eq]
  omega

theorem ucnt_step {s s' : St} {l : Lbl} (hE : Excl s) (hS : Sh s) (hW : Wk s) (hF : WF2 s) (ho : s.ordered = false)
    (h : UCnt s) (hs : step s l = some s') : UCnt s' := by
  cases Step.of_step hs with
  | @spawn i _ hopc =>
    have hidle := hW.fresh i i hopc (Nat.le_refl _)
    have hnobody : ∀ x, sumA s.thr (wj i x) = 0 := fun x =>
      Nat.le_zero.mp (hF.nobody hidle ▸ sumA_mono s.thr _ _ (wj_le_wAny i x))
    refine ucnt_congr (s := setCl s i fun _ => { pc := .start }) (ucnt_setCl_of rfl rfl i _ (fun c x _ => h c x) (fun x _ => ?_))
    rw [hnobody]
    cases x <;> simp [cntCl, hJob, want, pend]
  | joinC | destroyDone | destroySleep | destroyTake | joinW | spOwner => exact ucnt_congr h
  | @kill _ t =>
    refine ucnt_signalThr _ (ucnt_congr (s := setThr s t fun th => { th with running := true }) ?_)
    exact ucnt_setThr _ _ h (fun _ => Iff.rfl) rfl
  | start _ hp | mkH _ hp | nextDone _ hp | nextSleep _ hp | enqueueUnord _ hp | joinH _ hp | spClient _ hp =>
    exact ucnt_setCl _ _ h (fun _ => rfl) (fun x => want_eq _ _ x (by simp [pend, hp]))
  | nextTake _ hp | nextGrow _ hp =>
    exact ucnt_setCl _ _ (ucnt_congr h) (fun _ => rfl) (fun x => want_eq _ _ x (by simp [pend, hp]))
  | create _ hp => exact ucnt_setCl _ _ (ucnt_push hE h) (fun _ => rfl) (fun x => want_eq _ _ x (by simp [pend, hp]))
  | @assign c _ t hc hp =>
    -- thread t now carries job `nextJob` of client c, which is wanted from now on
    have ht := hE.client_lt (mem_view_assign (o := s.ordered) hp)
    have hid : SIdle s.thr[t]! := ((hS t).cl c).assign hp
    generalize hg : (fun th : Thr =>
      ({ th with rq := if s.ordered then none else some c, cb := some s.cl[c]!.nextJob, running := true } : Thr)) = g
    have hgw : ∀ c' x, wj c' x (g s.thr[t]!) = if c' = c ∧ x = some s.cl[c]!.nextJob then 1 else 0 := by
      intro c' x
      have hpc : s.thr[t]!.pc ≠ .selfEnq c' := by intro e; have := hid.top; rw [e] at this; cases this
      subst hg
      simp only [wj, ho, jobOf, hpc, or_false, Bool.false_eq_true, if_false, Option.some.injEq]
      simp only [eq_comm]
    have h0 := wj_of_rq_top hid.rq hid.top
    refine ucnt_signalThr _ (ucnt_setThr_setCl g _ h ht hc (fun c' _ => hE.assign_free hp c')
      (fun c' x hne => by rw [hgw, h0, if_neg (fun e => hne e.1)]) (fun x => ?_))
    have hm := cntU_setThr_free g ht c x (hE.assign_free hp c)
    have e : cntCl (s.thr.modify t g) { s.cl[c]! with pc := .enqueue t } x = cntCl (s.thr.modify t g) s.cl[c]! x := rfl
    rw [h0, hgw, Nat.add_zero] at hm
    rw [e, want_succ s.cl[c]! { s.cl[c]! with pc := .enqueue t } x (by simp [pend, hp]), hm, h c x]
    simp [pend, hp]
  | enqueueOrd _ _ ho' => cases ho.symm.trans ho'
  | finish _ hp =>
    exact ucnt_signalRq _ (ucnt_setCl _ _ h (fun _ => rfl) (fun x => want_eq _ _ x (by simp [pend, hp])))
  | deqTake _ _ hp hq =>
    refine ucnt_setCl _ _ h (fun x => ?_) (fun _ => rfl)
    simp only [cntCl, hJob, hp, hq, List.map_cons, List.count_cons, List.count_nil]
    omega
  | deqExit _ _ hp | deqSleep _ _ hp | waitSleep _ _ hp | spDeq _ hp | spWait _ hp =>
    exact ucnt_setCl _ _ h (fun x => by simp [cntCl, hJob, hp]) (fun _ => rfl)
  | @waitTake c _ t hc _ hp hr =>
    -- the handler takes the result off the thread: the thread's job was its result
    have ht := hE.client_lt (mem_view_wait (o := s.ordered) hp)
    have hfin : SFin s.thr[t]! := by
      have := (((hS t).cl c).wait false hp).1
      unfold SQ at this; rw [if_neg (by simp [ho])] at this; exact this
    have h0 := wj_of_rq_top hfin.rq hfin.top
    have h1 := wj_of_rq_top (th := { s.thr[t]! with res := none }) hfin.rq hfin.top
    refine ucnt_setThr_setCl _ _ h ht hc (fun c' hne => ⟨(hE.wait_free hp c').1, (hE.wait_free hp c').2 hne⟩)
      (fun c' x _ => by rw [h0]; exact h1 c' x) (fun x => ?_)
    have hsum : sumA (s.thr.modify t fun th => { th with res := none }) (wj c x) = sumA s.thr (wj c x) := by
      have := sumA_modify s.thr t (fun th => { th with res := none }) (wj c x) ht
      rw [h0, h1] at this; omega
    have hq : s.cl[c]!.queue.map (fun u => jobOf (s.thr.modify t fun th => { th with res := none })[u]!) =
        s.cl[c]!.queue.map (fun u => jobOf s.thr[u]!) :=
      List.map_congr_left fun u m => by
        rw [get_modify, if_neg (fun (e : u = t ∧ t < s.thr.size) => (hE.wait_free hp c).1 (e.1 ▸ m))]
    have hj : jobOf s.thr[t]! = s.thr[t]!.res := by simp [jobOf, hfin.cb]
    have := h c x
    simp only [cntU, hp, hJob, hj] at this
    simp only [cntCl, hJob, hq, hsum]
    exact this
  | giveBack _ _ hp =>
    exact ucnt_signalPool _ (ucnt_setCl _ _ (ucnt_congr h) (fun x => by simp [cntCl, hJob, hp]) (fun _ => rfl))
  | callback _ _ hp =>
    refine ucnt_setCl _ _ h (fun x => ?_) (fun _ => rfl)
    simp only [cntCl, hJob, hp, List.count_append, List.count_cons, List.count_nil]
    omega
  | wGo _ hp | wSleep _ hp | wExit _ hp | spWorker _ hp => exact ucnt_setThr _ _ h (fun c => by simp [hp]) rfl
  | doneOrd _ hp => exact ucnt_signalThr _ (ucnt_setThr _ _ h (fun c => by simp [hp]) rfl)
  | wRunUnord _ hp hcb hr | wRunOrd _ hp hcb hr =>
    exact ucnt_setThr _ _ h (fun c' => by simp [hp, hr]) (by simp [jobOf, hcb])
  | @selfEnq t _ c ht hp =>
    obtain ⟨hrq, _, _⟩ := hS.selfEnq_rq hp
    have hw0 : ∀ c' x, wj c' x s.thr[t]! = if c = c' ∧ jobOf s.thr[t]! = x then 1 else 0 := fun c' x => by
      simp [wj, hrq, hp]
    generalize hg : (fun th : Thr => ({ th with pc := .top false } : Thr)) = g
    have hw1 : ∀ c' x, wj c' x (g s.thr[t]!) = 0 := fun c' x => by subst hg; simp [wj, hrq]
    have hfree := hE.self_free (t := t) (by simp [wN, hp])
    refine ucnt_signalRq _ (ucnt_setThr_setCl g _ h ht (hF t c (Or.inr hp)).1 (fun c' _ => hfree c')
      (fun c' x hne => by rw [hw0, hw1, if_neg (fun e => hne e.1.symm)]) (fun x => ?_))
    have hm := cntU_setThr_free g ht c x (hfree c)
    have hjt : jobOf (s.thr.modify t g)[t]! = jobOf s.thr[t]! := by
      rw [get_modify, if_pos ⟨rfl, ht⟩]; subst hg; rfl
    simp only [hw0, hw1, true_and, Nat.add_zero] at hm
    have := h c x
    rw [cntCl_push, hjt]
    show _ = want s.cl[c]! x
    omega

theorem uord_step {s s' : St} {l : Lbl} (hE : Excl s) (hS : Sh s) (hW : Wk s) (hF : WF2 s) (h : UOrd s)
    (hs : step s l = some s') : UOrd s' := fun ho' =>
  have ho : s.ordered = false := (step_params hs).2.2.1.symm.trans ho'
  .of (ucnt_step hE hS hW hF ho (h ho).cnt hs) (wf2_step hW hF hs)

theorem uord_init (n max njobs : Nat) (o : Bool) : UOrd (init n max njobs o) := by
  refine fun _ => .of (fun c x => ?_) (wf2_init _ _ _ _)
  rw [cntU_eq]
  have hz : sumA (init n max njobs o).thr (wj c x) = 0 := by simp [init, sumA]
  rw [hz]
  rw [init_cl]
  cases x <;> simp [cntCl, hJob, want, pend]

theorem uord_reachable {n max njobs : Nat} {o : Bool} {s : St} (hr : Reachable n max njobs o s) : UOrd s := by
  induction hr with
  | init => exact uord_init _ _ _ _
  | step hr' hs ih => exact uord_step (inv_reachable hr').1 (inv_reachable hr').2 (wk_reachable hr') (wf2_reachable hr') ih hs

/-! ### unordered mode: the outstanding counter, and what is left when the handler exits -/
/-- `rq->nthreads` of client c counts the threads in its queue and the workers still carrying one of its jobs -/
def NOk (thr : Array Thr) (c : Nat) (cl : Client) : Prop :=
  cl.nthreads + (pend cl.pc : Int) = ((cl.queue.length + sumA thr (wAny c) : Nat) : Int)
/-- after the handler has exited nothing of the client is left in the pool -/
def ExOk (thr : Array Thr) (c : Nat) (cl : Client) : Prop :=
  cl.hpc = .exited → cl.queue = [] ∧ sumA thr (wAny c) = 0

structure NInv (s : St) : Prop where
  n : ∀ c : Nat, NOk s.thr c s.cl[c]!
  ex : ∀ c : Nat, ExOk s.thr c s.cl[c]!

def NOrd (s : St) : Prop := s.ordered = false → NInv s

theorem NOk.of_eq {thr : Array Thr} {c : Nat} {cl cl' : Client} (h : NOk thr c cl)
    (e1 : cl'.nthreads + (pend cl'.pc : Int) = cl.nthreads + (pend cl.pc : Int)) (e2 : cl'.queue = cl.queue) :
    NOk thr c cl' := by
  unfold NOk at h ⊢; rw [e1, e2]; exact h

theorem ninv_congr {s s' : St} (h : NInv s) (e2 : s'.cl = s.cl := by rfl) (e3 : s'.thr = s.thr := by rfl) : NInv s' :=
  ⟨fun c => by rw [e2, e3]; exact h.n c, fun c => by rw [e2, e3]; exact h.ex c⟩

theorem ninv_thr {s s' : St} (h : NInv s) (e2 : s'.cl = s.cl) (hsum : ∀ c, sumA s'.thr (wAny c) = sumA s.thr (wAny c)) :
    NInv s' :=
  ⟨fun c => by unfold NOk; rw [hsum, e2]; exact h.n c, fun c => by unfold ExOk; rw [hsum, e2]; exact h.ex c⟩

theorem ninv_setThr {s : St} (t : Nat) (g : Thr → Thr) (h : NInv s)
    (hk : ∀ c, ((g s.thr[t]!).rq = some c ∨ (g s.thr[t]!).pc = .selfEnq c) ↔ (s.thr[t]!.rq = some c ∨ s.thr[t]!.pc = .selfEnq c)) :
    NInv (setThr s t g) :=
  ninv_thr h rfl fun c => by
    have := sumA_setThr s t g (wAny c)
    have hw : wAny c (g s.thr[t]!) = wAny c s.thr[t]! := by simp only [wAny, hk c]
    rw [hw] at this; omega

theorem ninv_setCl {s : St} (c0 : Nat) (f : Client → Client) (h : NInv s)
    (hn : NOk s.thr c0 s.cl[c0]! → NOk s.thr c0 (f s.cl[c0]!))
    (he : ExOk s.thr c0 s.cl[c0]! → NOk s.thr c0 s.cl[c0]! → ExOk s.thr c0 (f s.cl[c0]!)) : NInv (setCl s c0 f) := by
  refine ⟨fun c => ?_, fun c => ?_⟩
  · show NOk s.thr c (s.cl.modify c0 f)[c]!
    rw [get_modify]; split
    · rename_i hh; rw [hh.1]; exact hn (h.n c0)
    · exact h.n c
  · show ExOk s.thr c (s.cl.modify c0 f)[c]!
    rw [get_modify]; split
    · rename_i hh; rw [hh.1]; exact he (h.ex c0) (h.n c0)
    · exact h.ex c

theorem ninv_caller {s : St} (c : Nat) (f : Client → Client) (h : NInv s)
    (e1 : (f s.cl[c]!).nthreads + (pend (f s.cl[c]!).pc : Int) = s.cl[c]!.nthreads + (pend s.cl[c]!.pc : Int))
    (e2 : (f s.cl[c]!).queue = s.cl[c]!.queue := by rfl) (e3 : (f s.cl[c]!).hpc = s.cl[c]!.hpc := by rfl) :
    NInv (setCl s c f) :=
  ninv_setCl c f h (fun hn => hn.of_eq e1 e2) (fun he _ => by unfold ExOk at he ⊢; rw [e2, e3]; exact he)

theorem ninv_handler {s : St} (c : Nat) (f : Client → Client) (h : NInv s) (hne : (f s.cl[c]!).hpc ≠ .exited)
    (e1 : (f s.cl[c]!).nthreads + (pend (f s.cl[c]!).pc : Int) = s.cl[c]!.nthreads + (pend s.cl[c]!.pc : Int) := by rfl)
    (e2 : (f s.cl[c]!).queue = s.cl[c]!.queue := by rfl) : NInv (setCl s c f) :=
  ninv_setCl c f h (fun hn => hn.of_eq e1 e2) (fun _ _ hx => absurd hx hne)

theorem ninv_signalThr {s : St} (t : Nat) (h : NInv s) : NInv (signalThr s t) := by
  have hsum : ∀ c, sumA (signalThr s t).thr (wAny c) = sumA s.thr (wAny c) := fun c =>
    sumA_signalThr s t _ fun th => by simp only [wAny, works_wakeW]
  have hrec : ∀ cl : Client, (wakeH t cl).nthreads = cl.nthreads ∧ ((wakeH t cl).hpc = .exited → cl.hpc = .exited) := by
    intro cl
    rcases wakeH_cases t cl with ⟨_, e⟩ | ⟨_, e⟩ <;> rw [e]
    · exact ⟨rfl, id⟩
    · exact ⟨rfl, fun hx => by cases hx⟩
  refine ⟨fun c => ?_, fun c => ?_⟩
  · unfold NOk; rw [hsum, signalThr_cl, get_map]; split
    · rw [(hrec _).1, wakeH_pc, wakeH_queue]; exact h.n c
    · rename_i hcs; rw [← cl_oob s c hcs]; exact h.n c
  · unfold ExOk; rw [hsum, signalThr_cl, get_map]; split
    · intro hx; rw [wakeH_queue]; exact h.ex c ((hrec _).2 hx)
    · rename_i hcs; rw [← cl_oob s c hcs]; exact h.ex c

theorem ninv_signalRq {s : St} (c : Nat) (h : NInv s) : NInv (signalRq s c) := by
  apply ninv_setCl c _ h
  · intro hn; split <;> exact hn
  · intro he _; split
    · intro hx; cases hx
    · exact he

theorem ninv_signalPool {s : St} (k : Nat) (h : NInv s) : NInv (signalPool s k) := by
  rcases signalPool_cases s k with ⟨_, e⟩ | ⟨_, e⟩ | ⟨c, _, hp, e⟩ <;> rw [e]
  · exact ninv_congr h
  · exact h
  · exact ninv_caller c _ h (by simp [pend, hp])

/-- `a`, `b`: how often t works for c before and after (0 or 1); `n`: the new number of workers of c -/
theorem ninv_setThr_setCl {s : St} {t c : Nat} (g : Thr → Thr) (f : Client → Client) (h : NInv s) (ht : t < s.thr.size)
    (hc : c < s.cl.size) (a b : Nat)
    (hw : ∀ c', wAny c' s.thr[t]! = (if c = c' then a else 0) ∧ wAny c' (g s.thr[t]!) = (if c = c' then b else 0))
    (hf : ∀ n, n + a = sumA s.thr (wAny c) + b → NOk s.thr c s.cl[c]! → ExOk s.thr c s.cl[c]! →
      (f s.cl[c]!).nthreads + (pend (f s.cl[c]!).pc : Int) = (((f s.cl[c]!).queue.length + n : Nat) : Int) ∧
      ((f s.cl[c]!).hpc = .exited → (f s.cl[c]!).queue = [] ∧ n = 0)) :
    NInv (setCl (setThr s t g) c f) := by
  have hsum : ∀ c', sumA (setThr s t g).thr (wAny c') + (if c = c' then a else 0) =
      sumA s.thr (wAny c') + (if c = c' then b else 0) := fun c' => by
    have := sumA_modify s.thr t g (wAny c') ht
    rw [(hw c').1, (hw c').2] at this
    exact this
  suffices h' : ∀ c', NOk (setThr s t g).thr c' (s.cl.modify c f)[c']! ∧ ExOk (setThr s t g).thr c' (s.cl.modify c f)[c']! from
    ⟨fun c' => (h' c').1, fun c' => (h' c').2⟩
  intro c'
  have := hsum c'
  rw [get_modify]; split
  · rename_i hh
    rw [hh.1] at this ⊢
    exact hf _ (by simpa using this) (h.n c) (h.ex c)
  · rename_i hh
    rw [if_neg (fun e => hh ⟨e.symm, hc⟩), if_neg (fun e => hh ⟨e.symm, hc⟩)] at this
    unfold NOk ExOk
    rw [show sumA (setThr s t g).thr (wAny c') = sumA s.thr (wAny c') from this]
    exact ⟨h.n c', h.ex c'⟩

theorem ninv_step {s s' : St} {l : Lbl} (hE : Excl s) (hS : Sh s) (hP : PhAll s) (hW : Wk s) (hF : WF2 s)
    (ho : s.ordered = false) (h : NInv s) (hs : step s l = some s') : NInv s' := by
  cases Step.of_step hs with
  | @spawn i _ hopc =>
    have hidle := hW.fresh i i hopc (Nat.le_refl _)
    have hnobody := hF.nobody hidle
    refine ninv_congr (s := setCl s i fun _ => { pc := .start }) (ninv_setCl i _ h (fun _ => ?_) (fun _ _ hx => by cases hx))
    unfold NOk; rw [hnobody]; simp [pend]
  | joinC | destroyDone | destroySleep | destroyTake | joinW | spOwner => exact ninv_congr h
  | kill =>
    exact ninv_signalThr _ (ninv_congr (ninv_setThr _ (fun th => { th with running := true }) h (fun _ => Iff.rfl)))
  | start _ hp | mkH _ hp | nextDone _ hp | nextSleep _ hp | enqueueUnord _ hp | joinH _ hp | spClient _ hp =>
    exact ninv_caller _ _ h (by simp [pend, hp])
  | nextTake _ hp | nextGrow _ hp => exact ninv_caller _ _ (ninv_congr h) (by simp [pend, hp])
  | create _ hp =>
    exact ninv_caller _ _ (ninv_thr (s' := { s with thr := s.thr.push {} }) h rfl (fun c => by
      show sumA (s.thr.push {}) (wAny c) = _
      rw [sumA_push]; simp [wAny])) (by simp [pend, hp])
  | @assign c _ t hc hp =>
    have ht := hE.client_lt (mem_view_assign (o := s.ordered) hp)
    have hid : SIdle s.thr[t]! := ((hS t).cl c).assign hp
    have hpc : ∀ c', s.thr[t]!.pc ≠ .selfEnq c' := fun c' e => by have := hid.top; rw [e] at this; cases this
    have hfin : s.cl[c]!.hpc ≠ .exited := by
      intro hx
      have := (hP c).flag ((hP c).exit hx).1
      rw [hp] at this; rcases this with e | e <;> cases e
    refine ninv_signalThr _ (ninv_setThr_setCl _ _ h ht hc 0 1
      (fun c' => ⟨by simp [wAny, hid.rq, hpc], by simp [wAny, ho, hpc]⟩) (fun n hn hold _ => ⟨?_, fun hx => absurd hx hfin⟩))
    unfold NOk at hold
    simp only [pend, hp] at hold ⊢
    omega
  | enqueueOrd _ _ ho' => cases ho.symm.trans ho'
  | finish _ hp => exact ninv_signalRq _ (ninv_caller _ _ h (by simp [pend, hp]))
  | deqTake _ _ hp hq =>
    refine ninv_setCl _ _ h (fun hn => ?_) (fun _ _ hx => by cases hx)
    unfold NOk at hn ⊢
    simp only [hq, List.length_cons] at hn ⊢
    omega
  | @deqExit c _ _ _ hp hq hf =>
    -- exit: queue empty, told to finish, nothing outstanding
    refine ninv_setCl _ _ h id (fun _ hn _ => ?_)
    unfold NOk at hn
    have hpc := (hP c).flag hf.1
    have hpend : pend s.cl[c]!.pc = 0 := by rcases hpc with e | e <;> simp [pend, e]
    rw [hf.2, hq, hpend] at hn
    exact ⟨hq, by simp at hn; omega⟩
  | deqSleep | waitSleep | callback | spDeq | spWait => exact ninv_handler _ _ h (by simp)
  | waitTake =>
    exact ninv_handler _ _ (ninv_setThr _ (fun th => { th with res := none }) h (fun _ => Iff.rfl)) (by simp)
  | giveBack => exact ninv_signalPool _ (ninv_handler _ _ (ninv_congr h) (by simp))
  | wGo _ hp | wSleep _ hp | wExit _ hp | spWorker _ hp => exact ninv_setThr _ _ h (fun c => by simp [hp])
  | doneOrd _ hp => exact ninv_signalThr _ (ninv_setThr _ _ h (fun c => by simp [hp]))
  | wRunUnord _ hp _ hr | wRunOrd _ hp _ hr => exact ninv_setThr _ _ h (fun c' => by simp [hp, hr])
  | @selfEnq t _ c ht hp =>
    -- the worker enters c's queue: one worker less carries a job of c, one more thread is queued
    obtain ⟨hrq, _, _⟩ := hS.selfEnq_rq hp
    refine ninv_signalRq _ (ninv_setThr_setCl _ _ h ht (hF t c (Or.inr hp)).1 1 0
      (fun c' => ⟨by simp [wAny, hrq, hp], by simp [wAny, hrq]⟩) (fun n hn hold hex => ⟨?_, fun hx => ?_⟩))
    · unfold NOk at hold
      simp only [List.length_append, List.length_cons, List.length_nil]
      omega
    · -- the handler of c has exited: nobody works for c any more, so this step cannot happen
      have hz := sumA_eq_zero_term s.thr (wAny c) (hex hx).2 t ht
      simp [wAny, hp] at hz

theorem nord_step {s s' : St} {l : Lbl} (hE : Excl s) (hS : Sh s) (hP : PhAll s) (hW : Wk s) (hF : WF2 s) (h : NOrd s)
    (hs : step s l = some s') : NOrd s' := fun ho' =>
  have ho : s.ordered = false := (step_params hs).2.2.1.symm.trans ho'
  ninv_step hE hS hP hW hF ho (h ho) hs

theorem nord_init (n max njobs : Nat) (o : Bool) : NOrd (init n max njobs o) := by
  intro _
  have hz : ∀ c, sumA (init n max njobs o).thr (wAny c) = 0 := by intro c; simp [init, sumA]
  refine ⟨fun c => ?_, fun c => ?_⟩
  · unfold NOk; rw [hz, init_cl]; simp [pend]
  · unfold ExOk; rw [init_cl]; intro hx; cases hx

theorem nord_reachable {n max njobs : Nat} {o : Bool} {s : St} (hr : Reachable n max njobs o s) : NOrd s := by
  induction hr with
  | init => exact nord_init _ _ _ _
  | step hr' hs ih =>
    exact nord_step (inv_reachable hr').1 (inv_reachable hr').2 (ph_reachable hr') (wk_reachable hr') (wf2_reachable hr') ih hs

/-! ### what it means for a client -/
/-- UNORDERED DELIVERY, any number of clients on the pool: every client is delivered each result at most once, never a
    missing result (`none`), and only results of jobs it has dispatched -/
theorem unordered_at_most_once {n max njobs : Nat} {o : Bool} {s : St} (hr : Reachable n max njobs o s)
    (ho : s.ordered = false) (c : Nat) :
    s.cl[c]!.delivered.count none = 0 ∧
    ∀ j : Nat, s.cl[c]!.delivered.count (some j) ≤ 1 ∧
      (0 < s.cl[c]!.delivered.count (some j) → j < s.cl[c]!.nextJob + pend s.cl[c]!.pc) := by
  have hu := uord_reachable hr ho
  refine ⟨?_, fun j => ?_⟩
  · have := hu.cnt c none
    simp only [cntU, want] at this; omega
  · have := hu.cnt c (some j)
    simp only [cntU, want] at this
    split at this
    · rename_i hj; exact ⟨by omega, fun _ => hj⟩
    · exact ⟨by omega, fun hpos => by omega⟩

theorem count_range_some (n j : Nat) : ((List.range n).map some).count (some j) = if j < n then 1 else 0 := by
  induction n with
  | zero => simp
  | succ n ih =>
    rw [List.range_succ, List.map_append, List.count_append, ih]
    simp only [List.map_cons, List.map_nil, List.count_cons, List.count_nil, beq_iff_eq, Option.some.injEq]
    repeat' split
    all_goals omega

theorem count_range_none (n : Nat) : ((List.range n).map some).count (none : Option Nat) = 0 := by
  induction n with
  | zero => simp
  | succ n ih => rw [List.range_succ, List.map_append, List.count_append, ih]; simp

/-- … and when the client's thread has returned it has been delivered the results of ALL its jobs, each exactly once (as a
    permutation of the submissions): what the pooled sorter needs from the pool, for any number of sorters sharing it -/
theorem unordered_complete {n max njobs : Nat} {o : Bool} {s : St} (hr : Reachable n max njobs o s)
    (ho : s.ordered = false) (c : Nat) (hd : s.cl[c]!.pc = .done) :
    s.cl[c]!.delivered.Perm ((List.range s.njobs).map some) := by
  have hu := uord_reachable hr ho
  have hn := nord_reachable hr ho
  have hP := ph_reachable hr c
  have he := hP.done hd
  obtain ⟨hq, hw⟩ := hn.ex c he
  have hnj := hP.fin (Or.inr (Or.inr hd))
  rw [List.perm_iff_count]
  intro x
  have hc := hu.cnt c x
  have hwj : sumA s.thr (wj c x) = 0 := by
    have := sumA_mono s.thr (wj c x) (wAny c) (wj_le_wAny c x); omega
  simp only [cntU, he, hq, hJob, hwj, List.map_nil, List.count_nil, Nat.add_zero] at hc
  rw [hc]
  cases x with
  | none => simp [want, count_range_none]
  | some j => simp only [want, pend, hd, hnj, Nat.add_zero, count_range_some]

end TpK
