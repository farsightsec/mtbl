import MtblModel.Verify
import MtblProofs.FileEncProofs
import MtblProofs.CrcDetectProofs
/-
  C12 at the file level: `mtbl_verify` (MtblModel/Verify.lean) and the verifying reader on
  (a) the bytes of a legal encoding — everything passes;
  (b) the same bytes with the checksum field and/or the stored bytes of ONE frame xor-ed with an error
      pattern the CRC-32C detects (CrcDetectProofs) — `get_block` stops on that block, `mtbl_verify`
      reports FAILED (data block) or stops inside the open (index block).

  Frames are taken with an arbitrary checksum field (`FileEnc.gframe`), so one set of parsing lemmas serves intact
  and damaged frames; a file is `assemble pre frames tail`, the damaged file the same with one frame replaced by one
  of equal length.  The sweep over a run of frames is one induction (`sweep_frames`): it passes if every checksum
  matches and reports FAILED at the first that does not.
-/
namespace Mtbl

namespace Verify
open FileEnc

/-! ### files as `pre ++ frames ++ tail`; replacing one frame by one of the same length -/

/-- a file: foreign bytes, the data frames, everything behind them (index frame and trailer) -/
def assemble (pre : Bytes) (frames : List Bytes) (tail : Bytes) : Bytes := pre ++ frames.flatMap id ++ tail

theorem encode_assemble (f : EFile) (comp : Bytes → Bytes) :
    f.encode comp = assemble f.pre (f.dataFrames comp) (idxFrame f comp ++ trailer f comp) := by
  rw [encode_eq]
  unfold assemble fdata
  simp only [List.append_assoc]

theorem assemble_split (pre : Bytes) (frames : List Bytes) (tail : Bytes) (j : Nat) (fr : Bytes)
    (hfr : frames[j]? = some fr) :
    assemble pre frames tail =
      (pre ++ (frames.take j).flatMap id) ++ (fr ++ ((frames.drop (j + 1)).flatMap id ++ tail)) := by
  unfold assemble
  rw [flatMap_split frames j fr hfr]
  simp only [List.append_assoc]

theorem assemble_drop (pre : Bytes) (frames : List Bytes) (tail : Bytes) (j : Nat) (fr : Bytes) (off : Nat)
    (hfr : frames[j]? = some fr) (hoff : (frameOffsets pre.length frames)[j]? = some off) :
    (assemble pre frames tail).drop off = fr ++ ((frames.drop (j + 1)).flatMap id ++ tail) ∧
    off = pre.length + ((frames.take j).flatMap id).length ∧
    off + fr.length ≤ pre.length + (frames.flatMap id).length := by
  have hj : j < frames.length := BlockEnc.lt_of_getElem? _ _ _ hfr
  rw [frameOffsets_getElem? frames pre.length j hj] at hoff
  have hoff := (Option.some.inj hoff).symm
  refine ⟨?_, hoff, ?_⟩
  · rw [assemble_split pre frames tail j fr hfr]
    exact List.drop_left' (by rw [List.length_append]; exact hoff.symm)
  · rw [flatMap_split frames j fr hfr]
    simp only [List.length_append]
    omega

theorem assemble_drop_pre (pre : Bytes) (frames : List Bytes) (tail : Bytes) :
    (assemble pre frames tail).drop pre.length = frames.flatMap id ++ tail := by
  unfold assemble
  rw [List.append_assoc]
  exact List.drop_left

theorem getElem?_set_self' {α : Type} (l : List α) (j : Nat) (a x : α) (h : l[j]? = some x) :
    (l.set j a)[j]? = some a := by
  have hj : j < l.length := BlockEnc.lt_of_getElem? _ _ _ h
  rw [List.getElem?_set_self hj]

theorem assemble_set (pre : Bytes) (frames : List Bytes) (tail : Bytes) (j : Nat) (fr fr' : Bytes)
    (hfr : frames[j]? = some fr) :
    assemble pre (frames.set j fr') tail =
      (pre ++ (frames.take j).flatMap id) ++ (fr' ++ ((frames.drop (j + 1)).flatMap id ++ tail)) := by
  rw [assemble_split pre (frames.set j fr') tail j fr' (getElem?_set_self' frames j fr' fr hfr),
    List.take_set_of_le (Nat.le_refl j), List.drop_set_of_lt (Nat.lt_succ_self j)]

theorem flatMap_set_length (frames : List Bytes) (j : Nat) (fr fr' : Bytes)
    (hfr : frames[j]? = some fr) (hl : fr'.length = fr.length) :
    ((frames.set j fr').flatMap id).length = (frames.flatMap id).length := by
  rw [flatMap_split frames j fr hfr,
    flatMap_split (frames.set j fr') j fr' (getElem?_set_self' frames j fr' fr hfr),
    List.take_set_of_le (Nat.le_refl j), List.drop_set_of_lt (Nat.lt_succ_self j)]
  simp only [List.length_append, hl]

/-! ### the damage: xor masks on the checksum field and the stored bytes of one frame -/

/-- `file` with the 4 bytes at `pos` (a frame's checksum field) xor-ed with `ef` and the following
    `len` bytes (the frame's stored bytes) xor-ed with `ep`; nothing else changes.
    For the frame at offset `off` with an `ll`-byte length prefix: `pos = off + ll`. -/
def damageFrame (file : Bytes) (pos len : Nat) (ef ep : Bytes) : Bytes :=
  file.take pos ++ xorBytes ((file.drop pos).take 4) ef ++ xorBytes ((file.drop (pos + 4)).take len) ep
    ++ file.drop (pos + 4 + len)

theorem damageFrame_gframe (P Q : Bytes) (ver : FVersion) (field body ef ep : Bytes)
    (hf : field.length = 4) (hep : ep.length = body.length) :
    damageFrame (P ++ (gframe ver field body ++ Q)) (P.length + prefixLen ver body.length) body.length ef ep
      = P ++ (gframe ver (xorBytes field ef) (xorBytes body ep) ++ Q) := by
  have hA : (P ++ lenPrefix ver body.length).length = P.length + prefixLen ver body.length := by
    rw [List.length_append, lenPrefix_length]
  have e : P ++ (gframe ver field body ++ Q) = (P ++ lenPrefix ver body.length) ++ (field ++ (body ++ Q)) := by
    unfold gframe
    simp only [List.append_assoc]
  unfold damageFrame
  rw [e, List.take_left' hA, List.drop_left' hA, List.take_left' hf]
  have h1 : (P ++ lenPrefix ver body.length ++ (field ++ (body ++ Q))).drop
      (P.length + prefixLen ver body.length + 4) = body ++ Q := by
    rw [← List.drop_drop, List.drop_left' hA, List.drop_left' hf]
  have h2 : (P ++ lenPrefix ver body.length ++ (field ++ (body ++ Q))).drop
      (P.length + prefixLen ver body.length + 4 + body.length) = Q := by
    rw [← List.drop_drop, h1, List.drop_left]
  rw [h1, h2, List.take_left]
  unfold gframe
  simp only [List.append_assoc]
  rw [CrcD.xorBytes_length body ep hep.symm]

/-! ### the sweep of verify_data_blocks -/

theorem sweep_step (ver : FVersion) (data : Bytes) (bytesData left off consumed : Nat)
    (field body rest : Bytes)
    (h : data.drop off = gframe ver field body ++ rest) (hf : field.length = 4)
    (h64 : body.length < 2^64) (h32 : ver = .v1 → body.length < 2^32) :
    verifySweep (decide (ver.toV = .v1)) data bytesData (left + 1) off consumed =
      if consumed + prefixLen ver body.length + 4 + body.length > bytesData then .failed else
      if dec32 field ≠ crc32c body then .failed else
      verifySweep (decide (ver.toV = .v1)) data bytesData left
        (off + prefixLen ver body.length + 4 + body.length)
        (consumed + prefixLen ver body.length + 4 + body.length) := by
  obtain ⟨_, hpre, _, htake, hcrc⟩ := gframe_parse data off ver field body rest h hf h64 h32
  rw [verifySweep]
  simp only [decide_eq_true_eq, hpre, htake, hcrc]

/-- a checksum field and the stored bytes behind it, of the sizes the parsers rely on -/
def PairOK (ver : FVersion) (p : Bytes × Bytes) : Prop :=
  p.1.length = 4 ∧ p.2.length < 2^64 ∧ (ver = .v1 → p.2.length < 2^32)

def gframes (ver : FVersion) (ps : List (Bytes × Bytes)) : List Bytes := ps.map fun p => gframe ver p.1 p.2

theorem sweep_frames (ver : FVersion) (data : Bytes) (bytesData : Nat) :
    ∀ (ps : List (Bytes × Bytes)) (k off consumed : Nat) (rest : Bytes),
    (∀ p ∈ ps, PairOK ver p) →
    data.drop off = (gframes ver ps).flatMap id ++ rest →
    consumed + ((gframes ver ps).flatMap id).length ≤ bytesData →
    verifySweep (decide (ver.toV = .v1)) data bytesData (ps.length + k) off consumed =
      if ps.all (fun p => dec32 p.1 == crc32c p.2) then
        verifySweep (decide (ver.toV = .v1)) data bytesData k
          (off + ((gframes ver ps).flatMap id).length) (consumed + ((gframes ver ps).flatMap id).length)
      else .failed := by
  intro ps
  induction ps with
  | nil => intro k off consumed rest _ _ _; simp [gframes]
  | cons p ps ih =>
    intro k off consumed rest hs h hc
    obtain ⟨hf, h64, h32⟩ := hs p (List.mem_cons_self ..)
    have hfl : ((gframes ver (p :: ps)).flatMap id).length
        = prefixLen ver p.2.length + 4 + p.2.length + ((gframes ver ps).flatMap id).length := by
      show ((gframe ver p.1 p.2 :: gframes ver ps).flatMap id).length = _
      rw [List.flatMap_cons, List.length_append, id, gframe_length _ _ _ hf]
    have h' : data.drop off = gframe ver p.1 p.2 ++ ((gframes ver ps).flatMap id ++ rest) := by
      rw [h, ← List.append_assoc]; rfl
    have e : (p :: ps).length + k = (ps.length + k) + 1 := by rw [List.length_cons]; omega
    rw [hfl] at hc ⊢
    rw [e, sweep_step ver data bytesData _ off consumed _ _ _ h' hf h64 h32, if_neg (by omega), List.all_cons]
    by_cases hcrc : dec32 p.1 = crc32c p.2
    · have hd : data.drop (off + prefixLen ver p.2.length + 4 + p.2.length)
          = (gframes ver ps).flatMap id ++ rest := by
        have : off + prefixLen ver p.2.length + 4 + p.2.length = off + (gframe ver p.1 p.2).length := by
          rw [gframe_length _ _ _ hf]; omega
        rw [this, ← List.drop_drop, h', List.drop_left]
      rw [if_neg (fun hne => hne hcrc), ih k _ _ rest (fun x hx => hs x (List.mem_cons_of_mem _ hx)) hd (by omega),
        beq_iff_eq.mpr hcrc, Bool.true_and]
      simp only [Nat.add_assoc]
    · rw [if_pos hcrc, beq_eq_false_iff_ne.mpr hcrc, Bool.false_and, if_neg Bool.false_ne_true]

/-- the part of `verifyTool` behind the open -/
def afterOpen (m : Meta) (file : Bytes) : VRes :=
  if m.bytesDataBlocks = 0 ∧ m.countDataBlocks = 0 then .ok else
  verifySweep (m.version = .v1) (file.drop (subU64 m.indexBlockOffset m.bytesDataBlocks)) m.bytesDataBlocks
    m.countDataBlocks 0 0

theorem verifyTool_ok (thr : Nat) (decomp : Nat → Bytes → Option Bytes) (file : Bytes) (r : Rd)
    (h : readerOpen true thr decomp true file = .ok r) : verifyTool thr decomp file = afterOpen r.m file := by
  unfold verifyTool afterOpen
  rw [h]

theorem verifyTool_abort (thr : Nat) (decomp : Nat → Bytes → Option Bytes) (file : Bytes) (w : String)
    (h : readerOpen true thr decomp true file = .abort w) : verifyTool thr decomp file = .abort := by
  unfold verifyTool
  rw [h]

/-- the checksum field and the stored bytes of a data block of the encoded file -/
def pairOf (f : EFile) (comp : Bytes → Bytes) (b : EBlock) : Bytes × Bytes :=
  (fixed32 (crc32c (stored f comp b)), stored f comp b)

theorem dataFrames_pairs (f : EFile) (comp : Bytes → Bytes) :
    f.dataFrames comp = gframes f.version (f.blocks.map (pairOf f comp)) := by
  unfold gframes
  rw [dataFrames_eq, List.map_map]
  apply List.map_congr_left
  intro b _
  exact eframe_gframe _ _

theorem flatMap_length_ge (frs : List Bytes) (h : ∀ fr ∈ frs, 0 < fr.length) :
    frs.length ≤ (frs.flatMap id).length := by
  induction frs with
  | nil => exact Nat.le_refl _
  | cons a rest ih =>
    have := h a (List.mem_cons_self ..)
    have := ih (fun x hx => h x (List.mem_cons_of_mem _ hx))
    simp only [List.flatMap_cons, List.length_append, List.length_cons, id]
    omega

theorem blocks_le_fdata (f : EFile) (comp : Bytes → Bytes) : f.blocks.length ≤ (fdata f comp).length := by
  have := flatMap_length_ge (f.dataFrames comp) (by
    intro fr hfr
    rw [dataFrames_eq, List.mem_map] at hfr
    obtain ⟨b, _, rfl⟩ := hfr
    rw [eframe_length]
    have := prefixLen_pos f.version (stored f comp b).length
    omega)
  rw [dataFrames_eq, List.length_map] at this
  exact this

/-- the three trailer fields `mtbl_verify` uses are exact for a file shorter than 2^64 bytes -/
theorem afterOpen_eq (f : EFile) (comp : Bytes → Bytes) (hsize : (f.encode comp).length < 2^64) (file : Bytes) :
    afterOpen (rmeta f comp) file =
      if (fdata f comp).length = 0 ∧ f.blocks.length = 0 then .ok else
      verifySweep (decide (f.version.toV = .v1)) (file.drop f.pre.length) (fdata f comp).length
        f.blocks.length 0 0 := by
  have hlen := encode_length f comp
  unfold indexOff at hlen
  have hle := blocks_le_fdata f comp
  have p64 : (2:Nat)^64 = 18446744073709551616 := by decide
  have h1 : (rmeta f comp).bytesDataBlocks = (fdata f comp).length := by
    show (fdata f comp).length % 2^64 = _
    exact Nat.mod_eq_of_lt (by omega)
  have h2 : (rmeta f comp).countDataBlocks = f.blocks.length := by
    show f.blocks.length % 2^64 = _
    exact Nat.mod_eq_of_lt (by omega)
  have h3 : (rmeta f comp).indexBlockOffset = f.pre.length + (fdata f comp).length := by
    show (f.pre.length + (fdata f comp).length) % 2^64 = _
    exact Nat.mod_eq_of_lt (by omega)
  have h4 : (rmeta f comp).version = f.version.toV := rfl
  have h5 : subU64 (f.pre.length + (fdata f comp).length) (fdata f comp).length = f.pre.length := by
    unfold subU64 U64
    omega
  unfold afterOpen
  rw [h1, h2, h3, h4, h5]

/-- hypotheses on an encoded file used below: size, and `block_init` accepts the index block
    (all consequences of `EFile.legal` and the size side conditions, see `vhyp_of_legal`) -/
structure VHyp (f : EFile) (comp : Bytes → Bytes) : Prop where
  size : (f.encode comp).length < 2^64
  idx8 : 8 ≤ (idxStored f comp).length
  idxInit : blockInit f.thr (idxStored f comp) = some (blkOf f.thr (f.indexBlock comp))
  v1 : f.version = .v1 →
    (∀ b ∈ f.blocks, (stored f comp b).length < 2^32) ∧ (idxStored f comp).length < 2^32

theorem vhyp_of_legal (f : EFile) (comp : Bytes → Bytes)
    (hl : f.legal comp = true) (hthr : f.thr < 2^32) (hsize : (f.encode comp).length < 2^64)
    (hnri : f.indexRestarts.length < 2^32 - 1)
    (hv1 : f.version = .v1 →
      (∀ b ∈ f.blocks, (if f.compression = 0 then b.encode f.thr else comp (b.encode f.thr)).length < 2^32) ∧
      ((f.indexBlock comp).encode f.thr).length < 2^32) : VHyp f comp := by
  have hL := legalP_of_legal f comp hl
  have hlen := FileEnc.encode_length f comp
  have hidx8 := eframe_length f.version (idxStored f comp)
  rw [← idxFrame_eq] at hidx8
  have hidxsize : ((f.indexBlock comp).encode f.thr).length < 2^64 := by
    show (idxStored f comp).length < 2^64
    omega
  obtain ⟨hinit, _⟩ := encode_ok' f.thr (f.indexBlock comp) hL.index hthr hidxsize hnri
  have h8 : 8 ≤ (idxStored f comp).length := by
    have := BlockEnc.encode_length f.thr (f.indexBlock comp)
    have hpos := ((BlockEnc.legal_iff _).mp hL.index).restarts_pos
    have hw : 4 ≤ BlockEnc.rw_ f.thr (f.indexBlock comp) := by unfold BlockEnc.rw_; split <;> omega
    have hmul : 4 ≤ (f.indexBlock comp).restarts.length * BlockEnc.rw_ f.thr (f.indexBlock comp) :=
      Nat.le_trans hw (Nat.le_mul_of_pos_left _ hpos)
    show 8 ≤ ((f.indexBlock comp).encode f.thr).length
    omega
  exact ⟨hsize, h8, hinit, hv1⟩

theorem VHyp.pair_ok {f : EFile} {comp : Bytes → Bytes} (h : VHyp f comp) {b : EBlock} (hb : b ∈ f.blocks) :
    PairOK f.version (pairOf f comp b) := by
  refine ⟨fixed32_length _, ?_, fun hv => (h.v1 hv).1 b hb⟩
  obtain ⟨j, hj, rfl⟩ := List.mem_iff_getElem.mp hb
  obtain ⟨off, ho⟩ := BlockEnc.getElem?_of_lt (offs f comp) j (by rw [offs_length]; exact hj)
  have hfr : (f.dataFrames comp)[j]? = some (eframe f.version (stored f comp f.blocks[j])) := by
    rw [dataFrames_eq, List.getElem?_map, List.getElem?_eq_getElem hj]; rfl
  obtain ⟨_, _, hle⟩ := encode_drop_frame f comp j _ off hfr ho
  rw [eframe_length] at hle
  have := encode_length f comp
  have := h.size
  show (stored f comp f.blocks[j]).length < 2^64
  omega

theorem PairOK.damage {ver : FVersion} {c : Nat} {s ef ep : Bytes} (h : PairOK ver (fixed32 c, s))
    (hep : ep.length = s.length) (hef : ef.length = 4) : PairOK ver (xorBytes (fixed32 c) ef, xorBytes s ep) := by
  obtain ⟨_, h64, h32⟩ := h
  refine ⟨CrcD.xorBytes_fixed32_length c hef, ?_, fun hv => ?_⟩
  · show (xorBytes s ep).length < _
    rw [CrcD.xorBytes_length s ep hep.symm]; exact h64
  · show (xorBytes s ep).length < _
    rw [CrcD.xorBytes_length s ep hep.symm]; exact h32 hv

theorem VHyp.pairs_ok {f : EFile} {comp : Bytes → Bytes} (h : VHyp f comp) :
    ∀ p ∈ f.blocks.map (pairOf f comp), PairOK f.version p := by
  intro p hp
  obtain ⟨b, hb, rfl⟩ := List.mem_map.mp hp
  exact h.pair_ok hb

/-- the open of any file `pre ++ frames' ++ index frame ++ trailer` whose data area has the length the
    trailer says succeeds, whatever the data frames are (they are not looked at) -/
theorem open_frames (f : EFile) (comp : Bytes → Bytes) (decomp : Nat → Bytes → Option Bytes)
    (verify : Bool) (h : VHyp f comp) (frames' : List Bytes)
    (hl : (frames'.flatMap id).length = (fdata f comp).length) :
    readerOpen true f.thr decomp verify (assemble f.pre frames' (idxFrame f comp ++ trailer f comp)) =
      .ok { openedRd f comp decomp verify with
            data := assemble f.pre frames' (idxFrame f comp ++ trailer f comp) } := by
  have hflen : (assemble f.pre frames' (idxFrame f comp ++ trailer f comp)).length = (f.encode comp).length := by
    rw [encode_eq]
    unfold assemble
    simp only [List.length_append, hl]
    omega
  have hfile : assemble f.pre frames' (idxFrame f comp ++ trailer f comp) =
      (f.pre ++ frames'.flatMap id) ++
        (gframe f.version (fixed32 (crc32c (idxStored f comp))) (idxStored f comp) ++ trailer f comp) := by
    rw [← eframe_gframe, ← idxFrame_eq]
    rfl
  obtain ⟨hopen, hrd, hcrc⟩ := open_gen f comp decomp verify _ _ _ _ hfile
    (by rw [List.length_append, hl]; rfl) (fixed32_length _) (by rw [hflen]; exact h.size) h.idx8
    (fun hv => (h.v1 hv).2)
  rw [hopen]
  rw [dec32_fixed32' (CrcP.crc32c_lt _)] at hcrc
  exact openTail_ok _ _ _ _ _ _ _ _ _ _ hrd hcrc h.idx8 h.idxInit

/-! ### the damaged files -/

/-- error patterns (xor masks `ep` on the stored bytes, `ef` on the checksum field) that the CRC-32C is
    proved to detect on a block of `n` stored bytes: at least one bit is altered, and either at most three
    bits are (block shorter than 2^31 - 1 bits, checksum included), or all altered bits lie in a window of
    32 consecutive bit positions of stored bytes ++ checksum field -/
def Detectable (n : Nat) (ep ef : Bytes) : Prop :=
  0 < weight ep + weight ef ∧
  ((weight ep + weight ef ≤ 3 ∧ 8 * n + 32 < 2^31 - 1) ∨ burstWithin (ep ++ ef) 32)

theorem detectable_bad (s ep ef : Bytes) (hl : ep.length = s.length) (hf : ef.length = 4)
    (hd : Detectable s.length ep ef) :
    blockVerifies (xorBytes s ep) (xorBytes (fixed32 (crc32c s)) ef) = false := by
  obtain ⟨hw, h | h⟩ := hd
  · exact C12_detect_weight s ep ef hl hf hw h.1 h.2
  · exact C12_detect_burst_any s ep ef hl hf hw h

/-- the damaged version of the frame of `s` -/
def badFrame (ver : FVersion) (s ef ep : Bytes) : Bytes :=
  gframe ver (xorBytes (fixed32 (crc32c s)) ef) (xorBytes s ep)

theorem badFrame_length (ver : FVersion) (s ef ep : Bytes) (hl : ep.length = s.length) (hf : ef.length = 4) :
    (badFrame ver s ef ep).length = (eframe ver s).length := by
  unfold badFrame
  rw [gframe_length _ _ _ (CrcD.xorBytes_fixed32_length _ hf),
    CrcD.xorBytes_length _ _ hl.symm, eframe_length]

/-- `f.encode comp` with the checksum field of data frame `j` (at `off`) xor-ed with `ef` and its stored
    bytes xor-ed with `ep` -/
def damagedData (f : EFile) (comp : Bytes → Bytes) (b : EBlock) (off : Nat) (ef ep : Bytes) : Bytes :=
  damageFrame (f.encode comp) (off + prefixLen f.version (stored f comp b).length)
    (stored f comp b).length ef ep

/-- the same for the index frame -/
def damagedIndex (f : EFile) (comp : Bytes → Bytes) (ef ep : Bytes) : Bytes :=
  damageFrame (f.encode comp) (indexOff f comp + prefixLen f.version (idxStored f comp).length)
    (idxStored f comp).length ef ep

theorem dataFrames_get (f : EFile) (comp : Bytes → Bytes) (j : Nat) (b : EBlock) (hb : f.blocks[j]? = some b) :
    (f.dataFrames comp)[j]? = some (eframe f.version (stored f comp b)) := by
  rw [dataFrames_eq, List.getElem?_map, hb]; rfl

theorem damagedData_eq (f : EFile) (comp : Bytes → Bytes) (j : Nat) (b : EBlock) (off : Nat) (ef ep : Bytes)
    (hb : f.blocks[j]? = some b) (hoff : (offs f comp)[j]? = some off)
    (hep : ep.length = (stored f comp b).length) :
    damagedData f comp b off ef ep =
      assemble f.pre ((f.dataFrames comp).set j (badFrame f.version (stored f comp b) ef ep))
        (idxFrame f comp ++ trailer f comp) := by
  have hfr := dataFrames_get f comp j b hb
  obtain ⟨_, hoff', _⟩ := assemble_drop f.pre (f.dataFrames comp) (idxFrame f comp ++ trailer f comp) j _ off hfr hoff
  unfold damagedData
  rw [encode_assemble, assemble_split _ _ _ j _ hfr, assemble_set _ _ _ j _ _ hfr, eframe_gframe]
  have hP : off = (f.pre ++ ((f.dataFrames comp).take j).flatMap id).length := by
    rw [List.length_append]; exact hoff'
  rw [hP]
  exact damageFrame_gframe _ _ _ _ _ _ _ (fixed32_length _) hep

theorem damagedIndex_eq (f : EFile) (comp : Bytes → Bytes) (ef ep : Bytes)
    (hep : ep.length = (idxStored f comp).length) :
    damagedIndex f comp ef ep =
      (f.pre ++ fdata f comp) ++ (badFrame f.version (idxStored f comp) ef ep ++ trailer f comp) := by
  unfold damagedIndex
  have e : f.encode comp = (f.pre ++ fdata f comp) ++
      (gframe f.version (fixed32 (crc32c (idxStored f comp))) (idxStored f comp) ++ trailer f comp) := by
    rw [encode_eq, ← eframe_gframe, ← idxFrame_eq]
    simp only [List.append_assoc]
  have hP : indexOff f comp = (f.pre ++ fdata f comp).length := by
    rw [List.length_append]; rfl
  rw [e, hP]
  exact damageFrame_gframe _ _ _ _ _ _ _ (fixed32_length _) hep

end Verify

open FileEnc Verify

/-! ### `get_block` on a frame whose checksum does not match: outcome `none`, the assert stopped the process -/

theorem getBlock_detects_gen (r : Rd) (off : Nat) (ver : FVersion) (field' payload' rest : Bytes)
    (hv : r.verify = true) (hver : r.m.version = ver.toV)
    (h : r.data.drop off = gframe ver field' payload' ++ rest)
    (hf : field'.length = 4) (h64 : payload'.length < 2^64) (h32 : ver = .v1 → payload'.length < 2^32)
    (hbad : blockVerifies payload' field' = false) :
    getBlock r off = none := by
  obtain ⟨hlen, hpre, hrd, _, hcrc⟩ := gframe_parse r.data off ver field' payload' rest h hf h64 h32
  have hpos := prefixLen_pos ver payload'.length
  rw [← hver] at hpre
  unfold getBlock
  rw [if_neg (by omega)]
  simp only [hpre, hrd, hcrc, hv, ne_eq, blockVerifies_eq_false.mp hbad, not_false_eq_true, and_self, if_true]

theorem getBlock_detects (r : Rd) (off len : Nat) (field' payload' rest : Bytes)
    (hv : r.verify = true) (hver : r.m.version = .v2) (_hoff : off < r.data.length)
    (h : r.data.drop off = venc len ++ field' ++ payload' ++ rest)
    (hp : payload'.length = len) (hf : field'.length = 4) (h64 : len < 2^64)
    (hbad : blockVerifies payload' field' = false) :
    getBlock r off = none := by
  subst hp
  refine getBlock_detects_gen r off .v2 field' payload' rest hv hver ?_ hf h64 (fun h => by cases h) hbad
  rw [h]
  simp only [gframe, lenPrefix, List.append_assoc]

/-- the v1 analogue: the length prefix is `fixed32 len`, `len < 2^32` -/
theorem getBlock_detects_v1 (r : Rd) (off len : Nat) (field' payload' rest : Bytes)
    (hv : r.verify = true) (hver : r.m.version = .v1) (_hoff : off < r.data.length)
    (h : r.data.drop off = fixed32 len ++ field' ++ payload' ++ rest)
    (hp : payload'.length = len) (hf : field'.length = 4) (h32 : len < 2^32)
    (hbad : blockVerifies payload' field' = false) :
    getBlock r off = none := by
  subst hp
  refine getBlock_detects_gen r off .v1 field' payload' rest hv hver ?_ hf
    (Nat.lt_of_lt_of_le h32 (by decide)) (fun _ => h32) hbad
  rw [h]
  simp only [gframe, lenPrefix, List.append_assoc]

theorem getBlock_assemble (r : Rd) {pre tail : Bytes} {frames : List Bytes} {i offi : Nat} {ver : FVersion}
    {s : Bytes} (hd : r.data = assemble pre frames tail) (hfr : frames[i]? = some (eframe ver s))
    (hoff : (frameOffsets pre.length frames)[i]? = some offi) (hver : r.m.version = ver.toV)
    (hs : PairOK ver (fixed32 (crc32c s), s)) :
    getBlock r offi =
      match (if r.m.compression = 0 then some s else r.decomp r.m.compression s) with
      | none => none
      | some c => blockInit r.thr c := by
  obtain ⟨hdrop, _, _⟩ := assemble_drop pre frames tail i _ offi hfr hoff
  rw [← hd] at hdrop
  exact getBlock_frame r offi ver s _ hdrop hver hs.2.1 hs.2.2

/-! ### intact files pass `mtbl_verify` -/

theorem C12_intact_verify (f : EFile) (comp : Bytes → Bytes) (decomp : Nat → Bytes → Option Bytes)
    (h : VHyp f comp) : verifyTool f.thr decomp (f.encode comp) = .ok := by
  have hopen := open_frames f comp decomp true h (f.dataFrames comp) rfl
  rw [← encode_assemble] at hopen
  rw [verifyTool_ok _ _ _ _ hopen]
  show afterOpen (rmeta f comp) _ = _
  rw [afterOpen_eq f comp h.size]
  split
  · rfl
  · have hall : (f.blocks.map (pairOf f comp)).all (fun p => dec32 p.1 == crc32c p.2) = true := by
      rw [List.all_eq_true]
      intro p hp
      obtain ⟨b, _, rfl⟩ := List.mem_map.mp hp
      exact beq_iff_eq.mpr (dec32_fixed32' (CrcP.crc32c_lt _))
    have hk : f.blocks.length = (f.blocks.map (pairOf f comp)).length + 0 := by rw [List.length_map]; rfl
    rw [hk, sweep_frames f.version _ _ _ 0 0 0 (idxFrame f comp ++ trailer f comp) h.pairs_ok
      (by rw [List.drop_zero, encode_assemble, assemble_drop_pre, dataFrames_pairs])
      (by rw [← dataFrames_pairs, Nat.zero_add]; exact Nat.le_refl _), hall, if_pos rfl, verifySweep]

/-! ### the verifying reader on a file with one damaged data frame -/

/-- the reader obtained by opening the damaged file `file'`: everything as for the intact file, except the bytes -/
def damagedRd (f : EFile) (comp : Bytes → Bytes) (decomp : Nat → Bytes → Option Bytes) (file' : Bytes) : Rd :=
  { openedRd f comp decomp true with data := file' }

theorem C12_reader_detects (f : EFile) (comp : Bytes → Bytes) (decomp : Nat → Bytes → Option Bytes)
    (h : VHyp f comp) (j : Nat) (b : EBlock) (off : Nat) (ef ep : Bytes)
    (hb : f.blocks[j]? = some b) (hoff : (offs f comp)[j]? = some off)
    (hep : ep.length = (stored f comp b).length) (hef : ef.length = 4)
    (hd : Detectable (stored f comp b).length ep ef) :
    (damagedData f comp b off ef ep).length = (f.encode comp).length ∧
    readerOpen true f.thr decomp true (damagedData f comp b off ef ep) =
      .ok (damagedRd f comp decomp (damagedData f comp b off ef ep)) ∧
    getBlock (damagedRd f comp decomp (damagedData f comp b off ef ep)) off = none ∧
    ∀ i offi, i ≠ j → (offs f comp)[i]? = some offi →
      getBlock (damagedRd f comp decomp (damagedData f comp b off ef ep)) offi =
        getBlock (openedRd f comp decomp true) offi := by
  have hfr := dataFrames_get f comp j b hb
  have hbl := badFrame_length f.version (stored f comp b) ef ep hep hef
  have hfl := flatMap_set_length (f.dataFrames comp) j _ (badFrame f.version (stored f comp b) ef ep) hfr hbl
  have hoffs : frameOffsets f.pre.length ((f.dataFrames comp).set j (badFrame f.version (stored f comp b) ef ep))
      = offs f comp := frameOffsets_set _ j _ _ _ hfr hbl
  have hbm : b ∈ f.blocks := List.mem_of_getElem? hb
  rw [damagedData_eq f comp j b off ef ep hb hoff hep]
  refine ⟨?_, open_frames f comp decomp true h _ hfl, ?_, ?_⟩
  · rw [encode_assemble]
    unfold assemble
    simp only [List.length_append, hfl]
  · obtain ⟨hdrop, _, _⟩ := assemble_drop f.pre _ (idxFrame f comp ++ trailer f comp) j _ off
      (getElem?_set_self' _ j _ _ hfr) (by rw [hoffs]; exact hoff)
    obtain ⟨hf4, h64, h32⟩ := (h.pair_ok hbm).damage hep hef
    exact getBlock_detects_gen _ off f.version _ _ _ rfl rfl hdrop hf4 h64 h32 (detectable_bad _ ep ef hep hef hd)
  · intro i offi hij hoi
    have hi : i < f.blocks.length := by
      rw [← offs_length f comp]; exact BlockEnc.lt_of_getElem? _ _ _ hoi
    obtain ⟨bi, hbi⟩ := BlockEnc.getElem?_of_lt f.blocks i hi
    have hfri := dataFrames_get f comp i bi hbi
    have hs := h.pair_ok (List.mem_of_getElem? hbi)
    exact (getBlock_assemble _ rfl (by rw [List.getElem?_set_ne (Ne.symm hij)]; exact hfri)
        (by rw [hoffs]; exact hoi) rfl hs).trans
      (getBlock_assemble (openedRd f comp decomp true) (encode_assemble f comp) hfri hoi rfl hs).symm

/-! ### `mtbl_verify` on a file with one damaged data frame -/

theorem C12_verify_detects (f : EFile) (comp : Bytes → Bytes) (decomp : Nat → Bytes → Option Bytes)
    (h : VHyp f comp) (j : Nat) (b : EBlock) (off : Nat) (ef ep : Bytes)
    (hb : f.blocks[j]? = some b) (hoff : (offs f comp)[j]? = some off)
    (hep : ep.length = (stored f comp b).length) (hef : ef.length = 4)
    (hd : Detectable (stored f comp b).length ep ef) :
    verifyTool f.thr decomp (damagedData f comp b off ef ep) = .failed := by
  have hfr := dataFrames_get f comp j b hb
  have hbl := badFrame_length f.version (stored f comp b) ef ep hep hef
  have hfl := flatMap_set_length (f.dataFrames comp) j _ (badFrame f.version (stored f comp b) ef ep) hfr hbl
  have hbm : b ∈ f.blocks := List.mem_of_getElem? hb
  have hj : j < f.blocks.length := BlockEnc.lt_of_getElem? _ _ _ hb
  rw [damagedData_eq f comp j b off ef ep hb hoff hep]
  -- the damaged data area as a run of pairs: those of `f` with pair `j` replaced
  have hset : (f.dataFrames comp).set j (badFrame f.version (stored f comp b) ef ep) =
      gframes f.version ((f.blocks.map (pairOf f comp)).set j
        (xorBytes (fixed32 (crc32c (stored f comp b))) ef, xorBytes (stored f comp b) ep)) := by
    rw [dataFrames_pairs]
    unfold gframes
    rw [List.map_set]
    rfl
  rw [hset] at hfl ⊢
  rw [verifyTool_ok _ _ _ _ (open_frames f comp decomp true h _ hfl)]
  show afterOpen (rmeta f comp) _ = _
  rw [afterOpen_eq f comp h.size, if_neg (by omega)]
  have hk : f.blocks.length = ((f.blocks.map (pairOf f comp)).set j
      (xorBytes (fixed32 (crc32c (stored f comp b))) ef, xorBytes (stored f comp b) ep)).length + 0 := by
    rw [List.length_set, List.length_map]; rfl
  rw [hk, sweep_frames f.version _ _ _ 0 0 0 (idxFrame f comp ++ trailer f comp)
    (fun p hp => (List.mem_or_eq_of_mem_set hp).elim (h.pairs_ok p) (fun e => e ▸ (h.pair_ok hbm).damage hep hef))
    (by rw [List.drop_zero, assemble_drop_pre]) (by rw [Nat.zero_add, hfl]; exact Nat.le_refl _)]
  apply if_neg
  intro hall
  have := List.all_eq_true.mp hall _ (List.mem_set (by rw [List.length_map]; exact hj) _)
  exact blockVerifies_eq_false.mp (detectable_bad _ ep ef hep hef hd) (beq_iff_eq.mp this)

/-! ### damage in the index frame stops the open -/

theorem openTail_abort (thr : Nat) (decomp : Nat → Bytes → Option Bytes) (file : Bytes)
    (m : Meta) (io ilen ill : Nat) (body : Bytes)
    (hrd : rdAt file (io + ill + 4) ilen = some body)
    (hcrc : dec32 (file.drop (io + ill)) ≠ crc32c body) :
    OpenProofs.openTail thr decomp true file m io ilen ill = .abort "index crc" := by
  unfold OpenProofs.openTail
  simp only [hrd, hcrc, if_true, if_false]

theorem C12_index_detects (f : EFile) (comp : Bytes → Bytes) (decomp : Nat → Bytes → Option Bytes)
    (h : VHyp f comp) (ef ep : Bytes)
    (hep : ep.length = (idxStored f comp).length) (hef : ef.length = 4)
    (hd : Detectable (idxStored f comp).length ep ef) :
    readerOpen true f.thr decomp true (damagedIndex f comp ef ep) = .abort "index crc" ∧
    verifyTool f.thr decomp (damagedIndex f comp ef ep) = .abort := by
  have hxl := CrcD.xorBytes_length (idxStored f comp) ep hep.symm
  have hfl := CrcD.xorBytes_fixed32_length (crc32c (idxStored f comp)) hef
  have hsz : (damagedIndex f comp ef ep).length < 2^64 := by
    have hbl := badFrame_length f.version (idxStored f comp) ef ep hep hef
    have := h.size
    rw [encode_eq, idxFrame_eq] at this
    rw [damagedIndex_eq f comp ef ep hep]
    simp only [List.length_append, hbl] at this ⊢
    omega
  obtain ⟨hopen, hrd, hcrc⟩ := open_gen f comp decomp true _ _ _ _ (damagedIndex_eq f comp ef ep hep)
    (by rw [List.length_append]; rfl) hfl hsz (by rw [hxl]; exact h.idx8)
    (fun hv => by rw [hxl]; exact (h.v1 hv).2)
  have : readerOpen true f.thr decomp true (damagedIndex f comp ef ep) = .abort "index crc" := by
    rw [hopen]
    exact openTail_abort _ _ _ _ _ _ _ _ hrd (by rw [hcrc]; exact blockVerifies_eq_false.mp (detectable_bad _ ep ef hep hef hd))
  exact ⟨this, verifyTool_abort _ _ _ _ this⟩

/-! ### iterator level: every operation that has to load the damaged block stops -/

/-- this is the only way an iterator obtains a block (`readerIterInit`, `rNext`, `rSeek` all go through
    `blockAtIndex` / `getBlock`), so no entry is ever decoded from a block `get_block` refuses -/
theorem blockAtIndex_stops (r : Rd) (idx : BI) (off : Nat) (hi : idxOffset idx = some off)
    (hg : getBlock r off = none) : blockAtIndex r idx = none := by
  unfold blockAtIndex
  rw [hi]
  simp only [hg]

/-- `reader_iter_next` that leaves an exhausted block and finds the damaged block next: the process stops -/
theorem rNext_stops (it : RIter) (off : Nat) (hv : it.valid = true) (hnf : it.first = false)
    (hex : biValid (biNext it.bi) = false) (hnx : biValid (biNext it.idx) = true)
    (hi : idxOffset (biNext it.idx) = some off) (hg : getBlock it.r off = none) :
    rNext true it = none := by
  have hb := blockAtIndex_stops it.r (biNext it.idx) off hi hg
  unfold rNext
  simp only [hv, hnf, hex, hnx, hb, Bool.not_true, Bool.not_false, Bool.false_eq_true, if_false, if_true]

/-- `reader_iter_seek` that has to load the damaged block: the process stops -/
theorem rSeek_stops (it : RIter) (k : Bytes) (off : Nat)
    (hi : idxOffset (if needsIndexSeek it k then biSeek it.idx k else it.idx) = some off)
    (hload : it.b.isNone = true ∨ it.blockOffset ≠ off) (hg : getBlock it.r off = none) :
    rSeek it k = none := by
  have hl : (it.b.isNone || it.blockOffset != off) = true := by
    rcases hload with h | h
    · rw [h, Bool.true_or]
    · rw [bne_iff_ne.mpr h, Bool.or_true]
  unfold rSeek
  cases hn : needsIndexSeek it k
  all_goals
    simp only [hn, Bool.false_eq_true, if_false, if_true] at hi ⊢
    simp only [hi, hl, if_true, hg]

end Mtbl
