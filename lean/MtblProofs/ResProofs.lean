import MtblModel.Res
import Mathlib.Algebra.Group.Defs
import Mathlib.Tactic.Abel
/-
  C18 — the ledger invariant of the resource machine (MtblModel/Res.lean):
      ledger  =  Σ (what each live object holds)  +  Σ (what each live shared fileset holds)  +  leaked
  is preserved by every step, for every request sequence whatsoever (ill-formed requests are no-ops of the machine).
  Hence: when everything has been destroyed the ledger equals `leaked`; and with the repaired sorter (`fixF6`, `fixF10`)
  nothing is ever leaked, so the ledger is back at zero.
-/
namespace Res

@[ext] theorem Ledger.ext' {a b : Ledger} (h1 : a.fds = b.fds) (h2 : a.maps = b.maps) (h3 : a.tmp = b.tmp)
    (h4 : a.heap = b.heap) : a = b := by
  cases a; cases b; simp_all

instance : Zero Ledger := ⟨Ledger.zero⟩

instance : Neg Ledger := ⟨fun a => ⟨-a.fds, -a.maps, -a.tmp, -a.heap⟩⟩

@[simp] theorem add_fds (a b : Ledger) : (a + b).fds = a.fds + b.fds := rfl

@[simp] theorem add_maps (a b : Ledger) : (a + b).maps = a.maps + b.maps := rfl

@[simp] theorem add_tmp (a b : Ledger) : (a + b).tmp = a.tmp + b.tmp := rfl

@[simp] theorem add_heap (a b : Ledger) : (a + b).heap = a.heap + b.heap := rfl

@[simp] theorem sub_fds (a b : Ledger) : (a - b).fds = a.fds - b.fds := rfl

@[simp] theorem sub_maps (a b : Ledger) : (a - b).maps = a.maps - b.maps := rfl

@[simp] theorem sub_tmp (a b : Ledger) : (a - b).tmp = a.tmp - b.tmp := rfl

@[simp] theorem sub_heap (a b : Ledger) : (a - b).heap = a.heap - b.heap := rfl

@[simp] theorem neg_fds (a : Ledger) : (-a).fds = -a.fds := rfl

@[simp] theorem neg_maps (a : Ledger) : (-a).maps = -a.maps := rfl

@[simp] theorem neg_tmp (a : Ledger) : (-a).tmp = -a.tmp := rfl

@[simp] theorem neg_heap (a : Ledger) : (-a).heap = -a.heap := rfl

@[simp] theorem zero_fds : (0 : Ledger).fds = 0 := rfl

@[simp] theorem zero_maps : (0 : Ledger).maps = 0 := rfl

@[simp] theorem zero_tmp : (0 : Ledger).tmp = 0 := rfl

@[simp] theorem zero_heap : (0 : Ledger).heap = 0 := rfl

instance : AddCommGroup Ledger where
  add_assoc a b c := by ext <;> exact Int.add_assoc ..
  zero_add a := by ext <;> exact Int.zero_add _
  add_zero a := by ext <;> exact Int.add_zero _
  add_comm a b := by ext <;> exact Int.add_comm ..
  neg_add_cancel a := by ext <;> exact Int.add_left_neg _
  sub_eq_add_neg a b := by ext <;> exact Int.sub_eq_add_neg
  nsmul := nsmulRec
  zsmul := zsmulRec

theorem default_eq_zero : ({} : Ledger) = 0 := rfl

def sumL : List Ledger → Ledger
  | [] => 0
  | x :: xs => x + sumL xs

theorem sumL_append (a b : List Ledger) : sumL (a ++ b) = sumL a + sumL b := by
  induction a with
  | nil => simp [sumL]
  | cons x xs ih => simp only [List.cons_append, sumL, ih]; abel

theorem sumL_set (l : List Ledger) (i : Nat) (x : Ledger) (h : i < l.length) :
    sumL (l.set i x) = sumL l - l.getD i 0 + x := by
  induction l generalizing i with
  | nil => simp at h
  | cons y ys ih =>
    cases i with
    | zero => simp only [List.set_cons_zero, sumL, List.getD_cons_zero]; abel
    | succ j =>
      have hj : j < ys.length := by simpa using h
      simp only [List.set_cons_succ, sumL, List.getD_cons_succ, ih j hj]; abel

theorem sumL_replicate_zero (n : Nat) : sumL (List.replicate n 0) = 0 := by
  induction n with
  | zero => rfl
  | succ k ih => simp only [List.replicate_succ, sumL, ih]; abel

def total (s : St) : Ledger := sumL (s.objs.map holds) + sumL (s.sets.map holdsSet?) + s.leaked

def Inv (s : St) : Prop := s.ledger = total s

theorem holds_free : holds .free = 0 := rfl

theorem holds_null : holds .nullObj = 0 := rfl

theorem holdsSet?_none : holdsSet? none = 0 := rfl

theorem getD_map_holds (l : List Obj) (i : Nat) : (l.map holds).getD i 0 = holds (l.getD i .free) := by
  simp only [List.getD_eq_getElem?_getD, List.getElem?_map]
  cases l[i]? <;> simp [holds_free]

theorem getD_map_holdsSet (l : List (Option Shared)) (k : Nat) :
    (l.map holdsSet?).getD k 0 = holdsSet? (l.getD k none) := by
  simp only [List.getD_eq_getElem?_getD, List.getElem?_map]
  cases l[k]? <;> simp [holdsSet?_none]

theorem getObj_of_le {s : St} {i : Nat} (h : s.objs.length ≤ i) : getObj s i = .free := by
  unfold getObj; rw [List.getD_eq_getElem?_getD, List.getElem?_eq_none h]; rfl

/-- The new ledger is a variable `d` with an equation: the model writes it in several forms (`+ holds o` on a free slot,
    `- holds old + holds new`, `- holds old` on release), and each caller shows its form equal to this one. -/
theorem inv_setObj {s : St} (h : Inv s) (i : Nat) (o : Obj) (hi : i < s.objs.length) (d : Ledger)
    (hd : d = s.ledger - holds (getObj s i) + holds o) : Inv (setObj { s with ledger := d } i o) := by
  unfold Inv total setObj at *
  simp only [List.map_set]
  rw [sumL_set _ _ _ (by simpa using hi), getD_map_holds, hd, h]
  simp only [getObj]; abel

theorem getSet_lt {s : St} {k : Nat} {sh : Shared} (h : getSet s k = some sh) : k < s.sets.length := by
  unfold getSet at h
  by_contra hc
  rw [List.getD_eq_getElem?_getD, List.getElem?_eq_none (by omega)] at h
  cases h

theorem inv_putSet {s : St} (h : Inv s) (k : Nat) (sh sh' : Shared) (hk : getSet s k = some sh) (d : Ledger)
    (hd : d = s.ledger - holdsSet sh + holdsSet sh') : Inv (putSet { s with ledger := d } k sh') := by
  have hlt := getSet_lt hk
  unfold Inv total putSet at *
  simp only [List.map_set]
  rw [sumL_set _ _ _ (by simpa using hlt), getD_map_holdsSet]
  unfold getSet at hk
  rw [hk, hd, h]; simp only [holdsSet?]; abel

theorem inv_putSet_same {s : St} (h : Inv s) (k : Nat) (sh sh' : Shared) (hk : getSet s k = some sh)
    (hl : sh'.loaded = sh.loaded) : Inv (putSet s k sh') := by
  have := inv_putSet h k sh sh' hk s.ledger (by unfold holdsSet; rw [hl]; abel)
  simpa using this

theorem inv_dropSet {s : St} (h : Inv s) (k : Nat) (sh : Shared) (hk : getSet s k = some sh) :
    Inv (dropSet { s with ledger := s.ledger - holdsSet sh } k) := by
  have hlt := getSet_lt hk
  unfold Inv total dropSet at *
  simp only [List.map_set]
  rw [sumL_set _ _ _ (by simpa using hlt), getD_map_holdsSet]
  unfold getSet at hk
  rw [hk, h]; simp only [holdsSet?]; abel

theorem inv_create {s : St} (h : Inv s) (i : Nat) (o : Obj) : Inv (create s i o) := by
  unfold create
  split
  · rename_i hi
    split
    · rename_i hf
      exact inv_setObj h i o hi _ (by rw [hf, holds_free]; abel)
    · exact h
  · exact h

theorem inv_doReload {s : St} (h : Inv s) (k : Nat) : Inv (doReload s k) := by
  unfold doReload
  split
  · exact h
  · rename_i sh hk
    split
    · exact inv_putSet_same h k sh _ hk rfl
    · split
      · exact inv_putSet_same h k sh _ hk rfl
      ·         exact inv_putSet h k sh _ hk _ rfl

theorem objs_length_setObj (s : St) (i : Nat) (o : Obj) : (setObj s i o).objs.length = s.objs.length := by
  simp [setObj]

theorem inv_release {s : St} (h : Inv s) (i : Nat) :
    Inv (setObj { s with ledger := s.ledger - holds (getObj s i) } i .free) := by
  by_cases hi : i < s.objs.length
  · exact inv_setObj h i .free hi _ (by rw [holds_free]; abel)
  · -- no such slot: the object read is `.free`, nothing changes but a no-op `set`
    have hfree : getObj s i = .free := getObj_of_le (by omega)
    have hset : s.objs.set i Obj.free = s.objs := List.set_eq_of_length_le (by omega)
    simp only [hfree, holds_free]
    unfold Inv total setObj at *
    simp only [hset, h]; abel

theorem inv_updSorter {s : St} (h : Inv s) (i : Nat) (ss ss' : SSt) (ho : getObj s i = .sorter ss) :
    Inv (setObj { s with ledger := s.ledger - holds (.sorter ss) + holds (.sorter ss') } i (.sorter ss')) := by
  have hi : i < s.objs.length := by
    by_contra hc
    rw [getObj_of_le (by omega)] at ho; cases ho
  exact inv_setObj h i _ hi _ (by rw [ho])

theorem inv_init (f6 f10 : Bool) : Inv { fixF6 := f6, fixF10 := f10 } := by
  unfold Inv total
  show ({} : Ledger) = sumL ((List.replicate 64 Obj.free).map holds) + sumL ([].map holdsSet?) + ({} : Ledger)
  rw [List.map_replicate, holds_free, sumL_replicate_zero]
  simp only [List.map_nil, sumL, default_eq_zero]; abel

/-! ### every step is a sequence of a few elementary moves

  `step` is one large case distinction; both invariants (the ledger equation above, `Clean` below) are properties of
  the moves it is put together from, so the case distinction is gone through once (`step_moves`). -/

/-- `t` differs from `s` at most in the file-system part (`files`, `setfiles`) -/
structure SameRes (s t : St) : Prop where
  fixF6 : t.fixF6 = s.fixF6
  fixF10 : t.fixF10 = s.fixF10
  objs : t.objs = s.objs
  sets : t.sets = s.sets
  ledger : t.ledger = s.ledger
  leaked : t.leaked = s.leaked

/-- the elementary moves; `Q` is what is known about the sorters a request creates -/
inductive Move (Q : SSt → Prop) : St → St → Prop
  | book {s t} (h : SameRes s t) : Move Q s t
  | create (s i o) (ho : ∀ ss, o = .sorter ss → Q ss) : Move Q s (create s i o)
  | updSorter (s i ss ss') (ho : getObj s i = .sorter ss)
      (h : (∃ k v, ss' = (sorterAdd s.fixF6 s.fixF10 ss k v).2) ∨ ss' = (sorterIter s.fixF6 s.fixF10 ss).2) :
      Move Q s (setObj { s with ledger := s.ledger - holds (.sorter ss) + holds (.sorter ss') } i (.sorter ss'))
  | newSet (s sh) : Move Q s { s with sets := s.sets ++ [some sh], ledger := s.ledger + holdsSet sh }
  | putSame (s k sh sh') (hk : getSet s k = some sh) (hl : sh'.loaded = sh.loaded) : Move Q s (putSet s k sh')
  | reload (s k) : Move Q s (doReload s k)
  | release (s i) : Move Q s (setObj { s with ledger := s.ledger - holds (getObj s i) } i .free)
  | destroySorter (s i ss) (ho : getObj s i = .sorter ss) : Move Q s (destroyObj s i)
  | dropSet (s k sh) (hk : getSet s k = some sh) : Move Q s (dropSet { s with ledger := s.ledger - holdsSet sh } k)

inductive Moves (Q : SSt → Prop) : St → St → Prop
  | refl (s) : Moves Q s s
  | tail {s t u} : Moves Q s t → Move Q t u → Moves Q s u

theorem Moves.one {Q : SSt → Prop} {s t : St} (h : Move Q s t) : Moves Q s t := .tail (.refl s) h

theorem Moves.trans {Q : SSt → Prop} {s t u : St} (a : Moves Q s t) (b : Moves Q t u) : Moves Q s u := by
  induction b with
  | refl => exact a
  | tail _ m ih => exact ih.tail m

section
variable {Q : SSt → Prop}

theorem moves_reloadCheck (s : St) (k : Nat) : Moves Q s (reloadCheck s k) := by
  unfold reloadCheck
  split
  · exact .refl s
  · split
    · exact .refl s
    · split
      · exact .refl s
      · exact .one (.reload s k)

theorem moves_pinAll (s : St) (pins : List Nat) : Moves Q s (pinAll s pins) := by
  unfold pinAll
  induction pins generalizing s with
  | nil => exact .refl s
  | cons k ks ih =>
    simp only [List.foldl_cons]
    refine Moves.trans ?_ (ih _)
    split
    · rename_i sh hk
      exact (moves_reloadCheck s k).tail (.putSame _ k sh _ hk rfl)
    · exact moves_reloadCheck s k

theorem moves_unpin (s : St) (pins : List Nat) :
    Moves Q s (pins.foldl (fun s k => match getSet s k with
      | none => s
      | some sh => reloadCheck (putSet s k { sh with nIters := sh.nIters - 1 }) k) s) := by
  induction pins generalizing s with
  | nil => exact .refl s
  | cons k ks ih =>
    simp only [List.foldl_cons]
    refine Moves.trans ?_ (ih _)
    split
    · exact .refl s
    · rename_i sh hk
      exact (Moves.one (.putSame s k sh { sh with nIters := sh.nIters - 1 } hk rfl)).trans (moves_reloadCheck _ k)

theorem moves_destroyObj (s : St) (i : Nat) : Moves Q s (destroyObj s i) := by
  have h1 : Moves Q s (setObj { s with ledger := s.ledger - holds (getObj s i) } i .free) := .one (.release s i)
  cases ho : getObj s i with
  | sorter ss => exact .one (.destroySorter s i ss ho)
  | fileset k =>
    unfold destroyObj
    simp only [ho] at h1 ⊢
    split
    · exact h1
    · rename_i sh hk
      split
      · exact h1.tail (.dropSet _ k sh hk)
      · exact h1.tail (.putSame _ k sh _ hk rfl)
  | iter pins =>
    unfold destroyObj
    simp only [ho] at h1 ⊢
    exact h1.trans (moves_unpin _ pins)
  | _ => simpa [destroyObj, ho] using h1

theorem step_moves (s : St) (op : Op) (hop : ∀ i ss, op = .sorter i ss → Q ss) : Moves Q s (step s op) := by
  have book : ∀ t, SameRes s t → Moves Q s t := fun t h => .one (.book h)
  have fresh : ∀ (s : St) i o, (∀ ss, o ≠ .sorter ss) → Move Q s (create s i o) :=
    fun s i o h => .create s i o (fun ss e => absurd e (h ss))
  cases op with
  | table t n => exact book _ ⟨rfl, rfl, rfl, rfl, rfl, rfl⟩
  | bad t => exact book _ ⟨rfl, rfl, rfl, rfl, rfl, rfl⟩
  | setfile sid ts => exact book _ ⟨rfl, rfl, rfl, rfl, rfl, rfl⟩
  | pool i => exact .one (fresh s i _ (fun _ e => by cases e))
  | writer i ex => exact .one (fresh s i _ (fun _ e => by cases ex <;> cases e))
  | wadd i => exact .refl s
  | reader i t =>
    refine .one (fresh s i _ (fun _ e => ?_))
    split at e <;> cases e
  | merger i srcs => exact .one (fresh s i _ (fun _ e => by cases e))
  | sorter i ss => exact .one (.create s i _ (fun ss' e => by cases e; exact hop i ss rfl))
  | sadd i key vlen =>
    simp only [step]
    split
    · rename_i ss ho
      exact .one (.updSorter s i ss _ ho (.inl ⟨key, vlen, rfl⟩))
    · exact .refl s
  | siter i sid =>
    simp only [step]
    split
    · rename_i ss ho _
      refine (Moves.one (.updSorter s sid ss _ ho (.inr rfl))).tail (fresh _ i _ (fun _ e => ?_))
      split at e <;> cases e
    · exact .refl s
  | swrite sid =>
    simp only [step]
    split
    · rename_i ss ho
      split
      · exact .refl s
      · exact .one (.updSorter s sid ss _ ho (.inr rfl))
    · exact .refl s
  | fileset i sid =>
    simp only [step]
    split
    · split
      · exact (Moves.one (.newSet s { sid })).tail (fresh _ i _ (fun _ e => by cases e))
      · exact .refl s
    · exact .refl s
  | fsdup i orig =>
    simp only [step]
    split
    · rename_i k ho _
      split
      · rename_i sh hk
        exact (Moves.one (.putSame s k sh { sh with refs := sh.refs + 1 } hk rfl)).tail
          (fresh _ i _ (fun _ e => by cases e))
      · exact .refl s
    · exact .refl s
  | fsreload i =>
    simp only [step]
    split
    · rename_i k ho
      split
      · rename_i sh hk
        split
        · exact .one (.putSame s k sh _ hk rfl)
        · exact .one (.reload s k)
      · exact .refl s
    · exact .refl s
  | iter i src =>
    simp only [step]
    split
    · split
      · exact (moves_pinAll s _).tail (fresh _ i _ (fun _ e => by cases e))
      · exact .one (fresh s i _ (fun _ e => by cases e))
      · exact (moves_pinAll s _).tail (fresh _ i _ (fun _ e => by cases e))
      · exact .refl s
    · exact .refl s
  | use i => exact .refl s
  | destroy i => exact moves_destroyObj s i

theorem Move.inv {s t : St} (m : Move Q s t) (h : Inv s) : Inv t := by
  cases m with
  | book e =>
    unfold Inv total at *
    rw [e.objs, e.sets, e.ledger, e.leaked]; exact h
  | create i o _ => exact inv_create h i o
  | updSorter i ss ss' ho _ => exact inv_updSorter h i ss ss' ho
  | newSet sh =>
    unfold Inv total at *
    simp only [List.map_append, List.map_cons, List.map_nil, sumL_append, sumL, holdsSet?, h]
    abel
  | putSame k sh sh' hk hl => exact inv_putSet_same h k sh sh' hk hl
  | reload k => exact inv_doReload h k
  | release i => exact inv_release h i
  | destroySorter i ss ho =>
    have h1 := inv_release h i
    unfold destroyObj
    simp only [ho] at h1 ⊢
    unfold Inv total at *
    simp only [setObj] at *
    rw [h1]; abel
  | dropSet k sh hk => exact inv_dropSet h k sh hk

theorem Moves.inv {s t : St} (m : Moves Q s t) (h : Inv s) : Inv t := by
  induction m with
  | refl => exact h
  | tail _ m ih => exact m.inv ih

end

theorem inv_step {s : St} (h : Inv s) (op : Op) : Inv (step s op) :=
  (step_moves (Q := fun _ => True) s op (fun _ _ _ => trivial)).inv h

theorem inv_run {s : St} (h : Inv s) (ops : List Op) : Inv (run s ops) := by
  unfold run
  induction ops generalizing s with
  | nil => exact h
  | cons op ops ih => exact ih (inv_step h op)

theorem sumL_zero_of_all {α : Type} (l : List α) (f : α → Ledger) (h : ∀ x ∈ l, f x = 0) : sumL (l.map f) = 0 := by
  induction l with
  | nil => rfl
  | cons y ys ih =>
    simp only [List.map_cons, sumL, h y (by simp), ih (fun x hx => h x (by simp [hx]))]; abel

theorem holds_of_isFree {o : Obj} (h : isFree o = true) : holds o = 0 := by
  cases o <;> first | rfl | cases h

theorem holdsSet?_of_isNone {o : Option Shared} (h : o.isNone = true) : holdsSet? o = 0 := by
  cases o <;> first | rfl | cases h

theorem total_of_allFree {s : St} (h : allFree s = true) : total s = s.leaked := by
  unfold allFree at h
  simp only [Bool.and_eq_true, List.all_eq_true] at h
  unfold total
  rw [sumL_zero_of_all _ _ (fun o ho => holds_of_isFree (h.1 o ho)),
    sumL_zero_of_all _ _ (fun o ho => holdsSet?_of_isNone (h.2 o ho))]
  abel

def sorterClean : Obj → Prop
  | .sorter ss => ss.leakedFds = 0 ∧ ss.leakedHeap = 0
  | _ => True

structure Clean (s : St) : Prop where
  f6 : s.fixF6 = true
  f10 : s.fixF10 = true
  leaked : s.leaked = 0
  sorters : ∀ o ∈ s.objs, sorterClean o

theorem flushChunk_clean (ss : SSt) (h : ss.leakedFds = 0 ∧ ss.leakedHeap = 0) :
    (flushChunk true true ss).leakedFds = 0 ∧ (flushChunk true true ss).leakedHeap = 0 := by
  unfold flushChunk
  simp only [↓reduceIte, Nat.add_zero]
  split
  · simp [h.1, h.2]
    split <;> exact ⟨rfl, rfl⟩
  · simp [h.1, h.2]

theorem sorterAdd_clean (ss : SSt) (k v : Nat) (h : ss.leakedFds = 0 ∧ ss.leakedHeap = 0) :
    (sorterAdd true true ss k v).2.leakedFds = 0 ∧ (sorterAdd true true ss k v).2.leakedHeap = 0 := by
  unfold sorterAdd
  split
  · exact h
  · simp only
    split
    · exact flushChunk_clean _ h
    · exact h

theorem sorterIter_clean (ss : SSt) (h : ss.leakedFds = 0 ∧ ss.leakedHeap = 0) :
    (sorterIter true true ss).2.leakedFds = 0 ∧ (sorterIter true true ss).2.leakedHeap = 0 := by
  unfold sorterIter
  simp only
  generalize hss1 : (if ss.keys.length > 0 then flushChunk true true ss else ss) = ss1
  have h1 : ss1.leakedFds = 0 ∧ ss1.leakedHeap = 0 := by
    rw [← hss1]
    split
    · exact flushChunk_clean _ h
    · exact h
  split <;> simp [h1.1, h1.2]

theorem getObj_mem_or_free (s : St) (i : Nat) : getObj s i = .free ∨ getObj s i ∈ s.objs := by
  by_cases hi : i < s.objs.length
  · right; unfold getObj; rw [List.getD_eq_getElem?_getD, List.getElem?_eq_getElem hi]; exact List.getElem_mem hi
  · exact .inl (getObj_of_le (by omega))

theorem clean_getObj {s : St} (h : Clean s) (i : Nat) : sorterClean (getObj s i) := by
  rcases getObj_mem_or_free s i with hf | hm
  · rw [hf]; trivial
  · exact h.sorters _ hm

theorem clean_of_same {s s' : St} (h : Clean s) (h1 : s'.fixF6 = s.fixF6) (h2 : s'.fixF10 = s.fixF10)
    (h3 : s'.leaked = s.leaked) (h4 : s'.objs = s.objs) : Clean s' :=
  ⟨h1 ▸ h.f6, h2 ▸ h.f10, h3 ▸ h.leaked, h4 ▸ h.sorters⟩

theorem clean_setObj {s : St} (h : Clean s) (i : Nat) (o : Obj) (ho : sorterClean o) (d : Ledger) :
    Clean (setObj { s with ledger := d } i o) := by
  refine ⟨h.f6, h.f10, h.leaked, ?_⟩
  intro x hx
  simp only [setObj] at hx
  rcases List.mem_or_eq_of_mem_set hx with hx | hx
  · exact h.sorters x hx
  · rw [hx]; exact ho

theorem doReload_same (s : St) (k : Nat) : (doReload s k).fixF6 = s.fixF6 ∧ (doReload s k).fixF10 = s.fixF10 ∧
    (doReload s k).leaked = s.leaked ∧ (doReload s k).objs = s.objs := by
  unfold doReload putSet
  split
  · simp
  · split
    · simp
    · split <;> simp

theorem clean_putSet {s : St} (h : Clean s) (k : Nat) (sh : Shared) : Clean (putSet s k sh) :=
  clean_of_same h rfl rfl rfl rfl

theorem clean_create {s : St} (h : Clean s) (i : Nat) (o : Obj) (ho : sorterClean o) : Clean (create s i o) := by
  unfold create
  split
  · split
    · exact clean_setObj h i o ho _
    · exact h
  · exact h

theorem Move.clean {s t : St} (m : Move (fun ss => ss.leakedFds = 0 ∧ ss.leakedHeap = 0) s t) (h : Clean s) :
    Clean t := by
  cases m with
  | book e => exact clean_of_same h e.fixF6 e.fixF10 e.leaked e.objs
  | create i o ho =>
    refine clean_create h i o ?_
    cases o <;> first | trivial | exact ho _ rfl
  | updSorter i ss ss' ho hs =>
    have hc := clean_getObj h i
    rw [ho] at hc
    refine clean_setObj h i _ ?_ _
    rw [h.f6, h.f10] at hs
    rcases hs with ⟨k, v, rfl⟩ | rfl
    · exact sorterAdd_clean ss k v hc
    · exact sorterIter_clean ss hc
  | newSet sh => exact clean_of_same h rfl rfl rfl rfl
  | putSame k sh sh' _ _ => exact clean_putSet h k sh'
  | reload k =>
    obtain ⟨e6, e10, el, eo⟩ := doReload_same s k
    exact clean_of_same h e6 e10 el eo
  | release i => exact clean_setObj h i .free trivial _
  | destroySorter i ss ho =>
    have hc := clean_getObj h i
    rw [ho] at hc
    have hbase := clean_setObj h i .free trivial (s.ledger - holds (.sorter ss))
    unfold destroyObj
    simp only [ho]
    refine ⟨hbase.f6, hbase.f10, ?_, hbase.sorters⟩
    show (setObj _ i Obj.free).leaked + _ = 0
    have hl : (setObj { s with ledger := s.ledger - holds (.sorter ss) } i Obj.free).leaked = 0 := hbase.leaked
    rw [hl, hc.1, hc.2]; rfl
  | dropSet k sh _ => exact clean_of_same h rfl rfl rfl rfl

theorem Moves.clean {s t : St} (m : Moves (fun ss => ss.leakedFds = 0 ∧ ss.leakedHeap = 0) s t) (h : Clean s) :
    Clean t := by
  induction m with
  | refl => exact h
  | tail _ m ih => exact m.clean ih

theorem clean_step {s : St} (h : Clean s) (op : Op)
    (hop : ∀ i ss, op = .sorter i ss → ss.leakedFds = 0 ∧ ss.leakedHeap = 0) : Clean (step s op) :=
  (step_moves s op hop).clean h

theorem clean_init : Clean ({} : St) := by
  refine ⟨rfl, rfl, rfl, ?_⟩
  intro o ho
  have : o = .free := by
    have := List.eq_of_mem_replicate ho
    exact this
  rw [this]; trivial

/-- requests create sorters with nothing leaked yet (the only way a request can mention leak counters) -/
def freshSorters (ops : List Op) : Prop := ∀ op ∈ ops, ∀ i ss, op = .sorter i ss → ss.leakedFds = 0 ∧ ss.leakedHeap = 0

theorem clean_run {s : St} (h : Clean s) (ops : List Op) (hf : freshSorters ops) : Clean (run s ops) := by
  unfold run
  induction ops generalizing s with
  | nil => exact h
  | cons op ops ih =>
    exact ih (clean_step h op (hf op (by simp))) (fun o ho => hf o (by simp [ho]))

end Res

