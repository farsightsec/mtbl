import MtblProofs.TableDefs
import MtblProofs.BlockIterProofs
import MtblProofs.OrderProofs
/-
  The reader iterator (mtbl/reader.c: reader_iter, reader_iter_init, reader_iter_seek, reader_iter_next)
  refines the abstract cursor of MtblModel/Spec.lean on every well-formed table (`TableOK`),
  for every finite history of `next` / `seek` calls (properties C01, C02, C03).
  Always the repaired code (`fixF1 = true`).
-/
namespace Mtbl

namespace RI

theorem flatMap_get (d : Blk × BlockView) : ∀ (l : List (Blk × BlockView)) (j p : Nat), j < l.length →
    p < (l.getD j d).2.ents.length →
    (l.flatMap fun b => b.2.ents)[((l.take j).map fun b => b.2.ents.length).sum + p]? =
      (l.getD j d).2.ents[p]? := by
  intro l
  induction l with
  | nil => intro j p h; simp at h
  | cons x xs ih =>
    intro j p hj hp
    cases j with
    | zero =>
      simp only [List.take_zero, List.map_nil, List.sum_nil, Nat.zero_add, List.flatMap_cons]
      simp only [List.getD_cons_zero] at hp ⊢
      rw [List.getElem?_append_left hp]
    | succ j =>
      simp only [List.take_succ_cons, List.map_cons, List.sum_cons, List.flatMap_cons,
        List.getD_cons_succ] at hp ⊢
      rw [Nat.add_assoc, List.getElem?_append_right (Nat.le_add_right _ _), Nat.add_sub_cancel_left]
      exact ih j p (by simpa using hj) hp

end RI

namespace TableView

theorem base_zero (t : TableView) : t.base 0 = 0 := by simp [base]

theorem base_succ (t : TableView) {j : Nat} (hj : j < t.nb) :
    t.base (j + 1) = t.base j + (t.view j).n := by
  have hj' : j < t.blocks.length := hj
  simp only [base, view, BlockView.n, List.take_succ_eq_append_getElem hj', List.map_append, List.sum_append,
    List.getD_eq_getElem?_getD, List.getElem?_eq_getElem hj', List.map_cons, List.map_nil, List.sum_cons,
    List.sum_nil, Nat.add_zero, Option.getD_some]

theorem base_nb (t : TableView) : t.base t.nb = t.entries.length := by
  simp only [base, nb, List.take_length, entries, List.length_flatMap]

/-- entry `p` of block `j` is entry `base j + p` of the table -/
theorem entries_get (t : TableView) {j p : Nat} (hj : j < t.nb) (hp : p < (t.view j).n) :
    t.entries[t.base j + p]? = some ⟨(t.view j).key p, (t.view j).val p⟩ :=
  (RI.flatMap_get (default, ⟨[], [], []⟩) t.blocks j p hj hp).trans ((t.view j).getElem? hp)

theorem entries_lt (t : TableView) {j p : Nat} (hj : j < t.nb) (hp : p < (t.view j).n) :
    t.base j + p < t.entries.length :=
  (List.getElem?_eq_some_iff.mp (t.entries_get hj hp)).1

end TableView

namespace RI

variable {r : Rd} {t : TableView}

theorem before_base_lt (ok : TableOK r t) {j : Nat} {k : Bytes} (hj : j ≤ t.nb)
    (hsep : ∀ i, i < j → bcmp (t.sep i) k = .lt) :
    ∀ i e, i < t.base j → t.entries[i]? = some e → bcmp e.key k = .lt := by
  intro i e hi he
  cases j with
  | zero => rw [t.base_zero] at hi; omega
  | succ j' =>
    have hj' : j' < t.nb := by omega
    have hn := ok.nonempty j' hj'
    rw [t.base_succ hj'] at hi
    have hlast := t.entries_get hj' (show (t.view j').n - 1 < (t.view j').n by omega)
    have h1 := ok.sorted.getElem?_le (show i ≤ t.base j' + ((t.view j').n - 1) by omega) he hlast
    exact bcmp_le_lt_trans h1 (bcmp_le_lt_trans (ok.sep_lo j' hj') (hsep j' (by omega)))

/-- The global lower bound is found in the block selected by the index.  Only the entry AT the
    claimed position has to be shown not below `k` (`lowerBound_eq_iff`); it is entry `p` of block `j`, or
    the first entry of block `j + 1`, which lies above the separator of block `j`. -/
theorem lb_decomp (ok : TableOK r t) {k : Bytes} {j : Nat} (hj : j < t.nb)
    (hjs : lowerBound t.index.2.ents k = j) :
    lowerBound t.entries k = t.base j + lowerBound (t.view j).ents k := by
  obtain ⟨_, hlo, hhi⟩ := BlockIter.lowerBound_iff.mp hjs
  obtain ⟨hp, plo, phi⟩ := BlockIter.lowerBound_iff.mp (rfl : lowerBound (t.view j).ents k = _)
  generalize lowerBound (t.view j).ents k = p at hp plo phi
  have hn := ok.nonempty j hj
  have hlast := t.entries_lt hj (Nat.sub_lt hn Nat.one_pos)
  refine (lowerBound_eq_iff _ _ _).mpr ⟨by omega, fun i e hi he => ?_, fun e he => ?_⟩
  · by_cases hib : i < t.base j
    · exact before_base_lt ok (Nat.le_of_lt hj) hlo i e hib he
    · obtain ⟨q, rfl⟩ := Nat.exists_eq_add_of_le (Nat.not_lt.mp hib)
      have hq : q < p := Nat.lt_of_add_lt_add_left hi
      rw [t.entries_get hj (Nat.lt_of_lt_of_le hq hp)] at he
      cases he
      exact plo q hq
  · by_cases hpn : p < (t.view j).n
    · rw [t.entries_get hj hpn] at he
      cases he
      exact phi hpn
    · rw [Nat.le_antisymm hp (Nat.not_lt.mp hpn), ← t.base_succ hj] at he
      by_cases hj1 : j + 1 < t.nb
      · have h0 := t.entries_get hj1 (ok.nonempty _ hj1)
        rw [Nat.add_zero, he] at h0
        cases h0
        exact fun hlt => hhi (by rw [ok.index_n]; exact hj) (bcmp_lt_trans (ok.sep_hi j hj1) hlt)
      · rw [show j + 1 = t.nb by omega, t.base_nb, List.getElem?_eq_none (Nat.le_refl _)] at he
        cases he

theorem lb_end (ok : TableOK r t) {k : Bytes} (hjs : lowerBound t.index.2.ents k = t.nb) :
    lowerBound t.entries k = t.entries.length := by
  obtain ⟨_, hlo, _⟩ := BlockIter.lowerBound_iff.mp hjs
  refine (lowerBound_eq_iff _ _ _).mpr ⟨Nat.le_refl _, fun i e hi he => ?_, fun e he => ?_⟩
  · rw [← t.base_nb] at hi
    exact before_base_lt ok (Nat.le_refl _) hlo i e hi he
  · rw [List.getElem?_eq_none (Nat.le_refl _)] at he
    cases he

end RI

/-! ### the representation invariant -/

/-- the data block held by the iterator is block `jb` of the table, the block iterator stands on its
    entry `p` (`p = n`: exhausted), `ji` is the position of the index iterator -/
structure Held (t : TableView) (it : RIter) (c : Cur) (ji : Nat) (b : Blk) (jb p : Nat) : Prop where
  jb_lt : jb < t.nb
  b_eq : b = t.blk jb
  off_eq : it.blockOffset = t.off jb          -- the conjunct that the defective code (F1) breaks
  bi_rep : BRep (t.blk jb) (t.view jb) it.bi p
  ji_eq : ji < t.nb → jb = ji
  live_ji : it.valid = true → ji = jb
  pos_first : it.valid = true → it.first = true → c.pos = t.base jb + p
  pos_next : it.valid = true → it.first = false → p < (t.view jb).n ∧ c.pos = t.base jb + p + 1

/-- reader iterator `it` over reader `r` (decoding to `t`) represents the abstract cursor `c` -/
structure Rep (r : Rd) (t : TableView) (it : RIter) (c : Cur) : Prop where
  rd_eq : it.r = r
  held : ∃ ji, BRep t.index.1 t.index.2 it.idx ji ∧
    ∀ b, it.b = some b → ∃ jb p, Held t it c ji b jb p
  none_dead : it.b = none → it.valid = false
  live : it.valid = true → c.stuck = false
  dead : it.valid = false → c.stuck = true ∨ t.entries.length ≤ c.pos

namespace RI

variable {r : Rd} {t : TableView}

/-! `Rep` has two shapes.  A valid iterator holds the block the index iterator points at, and the cursor
    position is read off the block iterator (`OnBlock`, `OnBlock.rep_live`, `Rep.onBlock`).  An iterator that is
    not valid represents any cursor that can only fail; whatever block it still holds stays described
    (`HeldS`), because `reader_iter_seek` may reuse it (`Rep.of_dead`, `Rep.heldS`). -/

structure HeldS (t : TableView) (off : Nat) (bi : BI) (b : Blk) (jb p : Nat) : Prop where
  jb_lt : jb < t.nb
  b_eq : b = t.blk jb
  off_eq : off = t.off jb
  bi_rep : BRep (t.blk jb) (t.view jb) bi p

structure OnBlock (r : Rd) (t : TableView) (it : RIter) (j p : Nat) : Prop where
  rd_eq : it.r = r
  idx_rep : BRep t.index.1 t.index.2 it.idx j
  j_lt : j < t.nb
  b_eq : it.b = some (t.blk j)
  off_eq : it.blockOffset = t.off j
  bi_rep : BRep (t.blk j) (t.view j) it.bi p

theorem _root_.Mtbl.Rep.heldS {it : RIter} {c : Cur} (h : Rep r t it c) :
    ∃ ji, BRep t.index.1 t.index.2 it.idx ji ∧
      ∀ b, it.b = some b → ∃ jb p, HeldS t it.blockOffset it.bi b jb p ∧ (ji < t.nb → jb = ji) := by
  obtain ⟨ji, hidx, hh⟩ := h.held
  refine ⟨ji, hidx, fun b hb => ?_⟩
  obtain ⟨jb, p, H⟩ := hh b hb
  exact ⟨jb, p, ⟨H.jb_lt, H.b_eq, H.off_eq, H.bi_rep⟩, H.ji_eq⟩

theorem _root_.Mtbl.Rep.of_dead {it : RIter} {c : Cur} {ji : Nat} (hr : it.r = r)
    (hidx : BRep t.index.1 t.index.2 it.idx ji)
    (hh : ∀ b, it.b = some b → ∃ jb p, HeldS t it.blockOffset it.bi b jb p ∧ (ji < t.nb → jb = ji))
    (hv : it.valid = false) (hc : c.stuck = true ∨ t.entries.length ≤ c.pos) : Rep r t it c := by
  have nv : ∀ {P : Prop}, it.valid = true → P := fun h => by rw [hv] at h; cases h
  refine { rd_eq := hr, held := ⟨ji, hidx, fun b hb => ?_⟩, none_dead := fun _ => hv, live := nv,
           dead := fun _ => hc }
  obtain ⟨jb, p, H, hji⟩ := hh b hb
  exact ⟨jb, p, { jb_lt := H.jb_lt, b_eq := H.b_eq, off_eq := H.off_eq, bi_rep := H.bi_rep, ji_eq := hji,
                  live_ji := nv, pos_first := nv, pos_next := nv }⟩

theorem OnBlock.heldS {it : RIter} {j p : Nat} (h : OnBlock r t it j p) :
    ∀ b, it.b = some b → ∃ jb p, HeldS t it.blockOffset it.bi b jb p ∧ (j < t.nb → jb = j) :=
  fun _ hb => ⟨j, p, ⟨h.j_lt, Option.some.inj (hb.symm.trans h.b_eq), h.off_eq, h.bi_rep⟩, fun _ => rfl⟩

theorem OnBlock.rep_dead {it : RIter} {c : Cur} {j p : Nat} (h : OnBlock r t it j p)
    (hv : it.valid = false) (hc : c.stuck = true ∨ t.entries.length ≤ c.pos) : Rep r t it c :=
  Rep.of_dead h.rd_eq h.idx_rep h.heldS hv hc

/-- before the first `next` the cursor is on the block iterator's entry, afterwards one past it -/
theorem OnBlock.rep_live {it : RIter} {c : Cur} {j p : Nat} (h : OnBlock r t it j p)
    (hv : it.valid = true) (hst : c.stuck = false) (h1 : it.first = true → c.pos = t.base j + p)
    (h2 : it.first = false → p < (t.view j).n ∧ c.pos = t.base j + p + 1) : Rep r t it c :=
  { rd_eq := h.rd_eq
    held := ⟨j, h.idx_rep, fun _ hb => ⟨j, p,
      { jb_lt := h.j_lt, b_eq := Option.some.inj (hb.symm.trans h.b_eq), off_eq := h.off_eq,
        bi_rep := h.bi_rep, ji_eq := fun _ => rfl, live_ji := fun _ => rfl, pos_first := fun _ => h1,
        pos_next := fun _ => h2 }⟩⟩
    none_dead := fun hn => by rw [h.b_eq] at hn; cases hn
    live := fun _ => hst
    dead := fun hd => by rw [hv] at hd; cases hd }

theorem _root_.Mtbl.Rep.onBlock {it : RIter} {c : Cur} (h : Rep r t it c) (hv : it.valid = true) :
    ∃ j p, OnBlock r t it j p ∧ c.stuck = false ∧ (it.first = true → c.pos = t.base j + p) ∧
      (it.first = false → p < (t.view j).n ∧ c.pos = t.base j + p + 1) := by
  obtain ⟨ji, hidx, hh⟩ := h.held
  cases hb : it.b with
  | none => rw [h.none_dead hb] at hv; cases hv
  | some b =>
    obtain ⟨jb, p, H⟩ := hh b hb
    have hji := H.live_ji hv
    subst hji
    exact ⟨ji, p,
      { rd_eq := h.rd_eq, idx_rep := hidx, j_lt := H.jb_lt, b_eq := H.b_eq ▸ hb, off_eq := H.off_eq,
        bi_rep := H.bi_rep }, h.live hv, H.pos_first hv,
      H.pos_next hv⟩

theorem specNext_stuck (kind : Kind) (es : List Entry) {c : Cur} (h : c.stuck = true) :
    specNext kind es c = (none, c) := by
  unfold specNext; rw [if_pos h]

theorem specNext_at (kind : Kind) {es : List Entry} {i : Nat} {e : Entry} (he : es[i]? = some e) :
    specNext kind es ⟨i, false⟩ =
      if inBound kind e.key then (some e, ⟨i + 1, false⟩) else (none, ⟨i, true⟩) := by
  unfold specNext
  simp only [he, Bool.false_eq_true, if_false]

theorem specNext_end (kind : Kind) {es : List Entry} {i : Nat} (he : es[i]? = none) :
    specNext kind es ⟨i, false⟩ = (none, ⟨i, true⟩) := by
  unfold specNext
  simp only [he, Bool.false_eq_true, if_false]

theorem specNext_dead (kind : Kind) (es : List Entry) {c : Cur}
    (h : c.stuck = true ∨ es.length ≤ c.pos) :
    (specNext kind es c).1 = none ∧ (specNext kind es c).2.stuck = true := by
  obtain ⟨i, s⟩ := c
  cases s with
  | true => rw [specNext_stuck kind es rfl]; exact ⟨rfl, rfl⟩
  | false =>
    rw [specNext_end kind (List.getElem?_eq_none (h.resolve_left nofun))]
    exact ⟨rfl, rfl⟩

theorem specNext_none_stuck (kind : Kind) (es : List Entry) (c : Cur)
    (h : (specNext kind es c).1 = none) : (specNext kind es c).2.stuck = true := by
  obtain ⟨i, s⟩ := c
  cases s with
  | true => rw [specNext_stuck kind es rfl]
  | false =>
    cases he : es[i]? with
    | none => rw [specNext_end kind he]
    | some e =>
      rw [specNext_at kind he] at h ⊢
      split
      · next hin => rw [if_pos hin] at h; cases h
      · rfl

theorem idxOffset_lt (ok : TableOK r t) {idx : BI} {j : Nat} (h : BRep t.index.1 t.index.2 idx j)
    (hj : j < t.nb) : idxOffset idx = some (t.off j) := by
  have hj' : j < t.index.2.n := by rw [ok.index_n]; exact hj
  unfold idxOffset
  rw [if_pos ((biValid_iff ok.index_ok h).mpr hj'), h.val_eq hj', ok.index_val j hj]

theorem idxOffset_end (ok : TableOK r t) {idx : BI} (h : BRep t.index.1 t.index.2 idx t.nb) :
    idxOffset idx = none := by
  rw [← ok.index_n] at h
  unfold idxOffset
  rw [biValid_eq_false ok.index_ok h]
  rfl

theorem blockAtIndex_spec (ok : TableOK r t) {idx : BI} {j : Nat}
    (h : BRep t.index.1 t.index.2 idx j) (hj : j < t.nb) :
    ∃ bi0, blockAtIndex r idx = some (some (t.off j, t.blk j, bi0)) ∧
      BRep (t.blk j) (t.view j) bi0 (t.view j).n := by
  obtain ⟨bi0, h1, h2⟩ := biInit_spec (ok.block_ok j hj)
  refine ⟨bi0, ?_, h2⟩
  unfold blockAtIndex
  rw [idxOffset_lt ok h hj]
  simp only [ok.get_block j hj, h1]

theorem idx_le (ok : TableOK r t) {idx : BI} {j : Nat} (h : BRep t.index.1 t.index.2 idx j) : j ≤ t.nb :=
  ok.index_n ▸ h.p_le

theorem blockAtIndex_end (ok : TableOK r t) {idx : BI} (h : BRep t.index.1 t.index.2 idx t.nb) :
    blockAtIndex r idx = some none := by
  unfold blockAtIndex
  rw [idxOffset_end ok h]

theorem rFinish_spec {it : RIter} {j p : Nat} (h : OnBlock r t it j p)
    (hp : p < (t.view j).n) (hfirst : it.first = false) (hvalid : it.valid = true) :
    (rFinish it).1 = (specNext it.kind t.entries ⟨t.base j + p, false⟩).1 ∧
    Rep r t (rFinish it).2 (specNext it.kind t.entries ⟨t.base j + p, false⟩).2 ∧
    (rFinish it).2.kind = it.kind := by
  have hes : t.entries[t.base j + p]? = some ⟨it.bi.key, it.bi.val⟩ := by
    rw [t.entries_get h.j_lt hp, h.bi_rep.key_eq hp, h.bi_rep.val_eq hp]
  rw [specNext_at it.kind hes]
  unfold rFinish
  split
  · exact ⟨rfl, h.rep_live hvalid rfl (fun hf => by rw [hfirst] at hf; cases hf) (fun _ => ⟨hp, rfl⟩), rfl⟩
  · exact ⟨rfl, OnBlock.rep_dead { h with } rfl (.inl rfl), rfl⟩

/-- the body of `rNext` after the optional block_iter_next, split off so that the two ways into it share one
    lemma (`rNext_eq`, `rStep_spec`) -/
def rStep (fixF1 : Bool) (it : RIter) : Option (Option Entry × RIter) :=
  let it := { it with first := false, valid := biValid it.bi }
  if it.valid then some (rFinish it) else
  let idx := biNext it.idx
  let it := { it with b := none, idx }
  if !biValid idx then some (none, it) else
  match blockAtIndex it.r idx with
  | none => none
  | some none => some (none, it)
  | some (some (off, b, bi0)) =>
    let bi := biSeekToFirst bi0
    let it := { it with b := some b, bi, valid := biValid bi,
                        blockOffset := if fixF1 then off else it.blockOffset }
    if !it.valid then some (none, it) else some (rFinish it)

theorem rNext_eq (fixF1 : Bool) (it : RIter) : rNext fixF1 it =
    if !it.valid then some (none, it)
    else rStep fixF1 (if !it.first then { it with bi := biNext it.bi } else it) := by
  unfold rNext rStep
  rfl

theorem rStep_spec (ok : TableOK r t) {it : RIter} {j p : Nat} (h : OnBlock r t it j p) :
    ∃ it', rStep true it = some ((specNext it.kind t.entries ⟨t.base j + p, false⟩).1, it') ∧
      Rep r t it' (specNext it.kind t.entries ⟨t.base j + p, false⟩).2 ∧ it'.kind = it.kind := by
  have bok := ok.block_ok j h.j_lt
  by_cases hp : p < (t.view j).n
  · have hv := (biValid_iff bok h.bi_rep).mpr hp
    obtain ⟨h1, h2, h3⟩ := rFinish_spec (it := { it with first := false, valid := biValid it.bi })
      { h with } hp rfl hv
    refine ⟨_, ?_, h2, h3⟩
    unfold rStep
    rw [← h1]
    exact if_pos hv
  · have hpe := h.bi_rep.eq_n hp
    have hv : biValid it.bi = false := biValid_eq_false bok (hpe ▸ h.bi_rep)
    have hidx' := biNext_spec ok.index_ok h.idx_rep
    rw [ok.index_n] at hidx'
    by_cases hj1 : j + 1 < t.nb
    · rw [Nat.min_eq_left (Nat.le_of_lt hj1)] at hidx'
      have hvi : biValid (biNext it.idx) = true :=
        (biValid_iff ok.index_ok hidx').mpr (by rw [ok.index_n]; exact hj1)
      obtain ⟨bi0, hblk, hbi0⟩ := blockAtIndex_spec ok hidx' hj1
      have hbi1 := biSeekToFirst_spec (ok.block_ok _ hj1) hbi0
      have hvb := (biValid_iff (ok.block_ok _ hj1) hbi1).mpr (ok.nonempty _ hj1)
      obtain ⟨h1, h2, h3⟩ := rFinish_spec
        (it := { r := r, blockOffset := t.off (j + 1), b := some (t.blk (j + 1)),
                 bi := biSeekToFirst bi0, idx := biNext it.idx, first := false, valid := true,
                 kind := it.kind })
        { rd_eq := rfl, idx_rep := hidx', j_lt := hj1, b_eq := rfl, off_eq := rfl, bi_rep := hbi1 }
        (ok.nonempty _ hj1) rfl rfl
      rw [Nat.add_zero, t.base_succ h.j_lt, ← hpe] at h1 h2
      unfold rStep
      simp only [hv, hvi, h.rd_eq, hblk, hvb, Bool.false_eq_true, if_false, if_true, Bool.not_true]
      exact ⟨_, congrArg some (Prod.ext h1 rfl), h2, h3⟩
    · rw [Nat.min_eq_right (Nat.not_lt.mp hj1)] at hidx'
      have hnone : t.entries[t.base j + p]? = none := by
        apply List.getElem?_eq_none
        rw [hpe, ← t.base_succ h.j_lt, show j + 1 = t.nb by have := h.j_lt; omega, t.base_nb]
        exact Nat.le_refl _
      rw [specNext_end it.kind hnone]
      unfold rStep
      rw [← ok.index_n] at hidx'
      simp only [hv, biValid_eq_false ok.index_ok hidx', Bool.false_eq_true, if_false, Bool.not_false, if_true]
      exact ⟨_, rfl, Rep.of_dead h.rd_eq hidx' nofun rfl (.inl rfl), rfl⟩

theorem rNext_dead {it : RIter} (h : it.valid = false) : rNext true it = some (none, it) := by
  rw [rNext_eq, h]; rfl

end RI

open RI in
/-- **reader_iter_next** refines `specNext` -/
theorem rNext_spec {r : Rd} {t : TableView} (ok : TableOK r t) {it : RIter} {c : Cur}
    (h : Rep r t it c) :
    ∃ it', rNext true it = some ((specNext it.kind t.entries c).1, it') ∧
      Rep r t it' (specNext it.kind t.entries c).2 ∧ it'.kind = it.kind := by
  obtain ⟨pos, stuck⟩ := c
  cases hv : it.valid with
  | true =>
    obtain ⟨j, p, hb, hst, h1, h2⟩ := h.onBlock hv
    cases hst
    rw [rNext_eq, hv]
    cases hf : it.first with
    | true =>
      cases h1 hf
      exact rStep_spec ok hb
    | false =>
      obtain ⟨hp, hpos⟩ := h2 hf
      cases hpos
      have hbi := biNext_spec (ok.block_ok _ hb.j_lt) hb.bi_rep
      rw [Nat.min_eq_left hp] at hbi
      exact rStep_spec ok (it := { it with bi := biNext it.bi })
        { hb with bi_rep := hbi }
  | false =>
    have hs := specNext_dead it.kind t.entries (h.dead hv)
    obtain ⟨ji, hidx, hh⟩ := h.heldS
    exact ⟨it, by rw [hs.1, rNext_dead hv], Rep.of_dead h.rd_eq hidx hh hv (.inl hs.2), rfl⟩

namespace RI
variable {r : Rd} {t : TableView}

/-- the body of `rSeek` after the optional seek of the index iterator, split off likewise (`rSeek_eq`) -/
def rSeekTail (it : RIter) (k : Bytes) : Option RIter :=
  match idxOffset it.idx with
  | none => some { it with valid := false }
  | some off =>
    if it.b.isNone || it.blockOffset != off then
      match getBlock it.r off with
      | none => none
      | some b => match biInit b with
        | none => none
        | some bi => some { it with blockOffset := off, b := some b, bi := biSeek bi k, first := true, valid := true }
    else some { it with bi := biSeek it.bi k, first := true, valid := true }

theorem rSeek_eq (it : RIter) (k : Bytes) : rSeek it k =
    rSeekTail (if needsIndexSeek it k then { it with idx := biSeek it.idx k } else it) k := by
  unfold rSeek rSeekTail
  rfl

theorem rSeekTail_spec (ok : TableOK r t) {it : RIter} {k : Bytes} (hr : it.r = r)
    (hidx : BRep t.index.1 t.index.2 it.idx (lowerBound t.index.2.ents k))
    (hh : ∀ b, it.b = some b → ∃ jb p, HeldS t it.blockOffset it.bi b jb p) :
    ∃ it', rSeekTail it k = some it' ∧ Rep r t it' ⟨lowerBound t.entries k, false⟩ ∧
      it'.kind = it.kind := by
  generalize hjs : lowerBound t.index.2.ents k = js at hidx
  rcases Nat.lt_or_eq_of_le (idx_le ok hidx) with hjn | rfl
  · have hoffs := idxOffset_lt ok hidx hjn
    have hlb := lb_decomp ok hjn hjs
    have bok := ok.block_ok js hjn
    by_cases hre : (it.b.isNone || it.blockOffset != t.off js) = true
    · obtain ⟨bi0, hinit, hbi0⟩ := biInit_spec bok
      refine ⟨{ it with blockOffset := t.off js, b := some (t.blk js), bi := biSeek bi0 k,
                        first := true, valid := true }, ?_, ?_, rfl⟩
      · unfold rSeekTail
        simp only [hoffs, hre, if_true, hr, ok.get_block js hjn, hinit]
      · exact OnBlock.rep_live
          { rd_eq := hr, idx_rep := hidx, j_lt := hjn, b_eq := rfl, off_eq := rfl,
            bi_rep := blockSeek_spec' bok hbi0 } rfl rfl (fun _ => hlb) nofun
    · cases hb : it.b with
      | none => rw [hb] at hre; exact absurd rfl hre
      | some b =>
        obtain ⟨jb, p, HS⟩ := hh b hb
        have hoff : it.blockOffset = t.off js := by
          simpa only [hb, Option.isNone_some, Bool.false_or, bne_iff_ne, ne_eq, Decidable.not_not] using hre
        have hjb : jb = js := ok.offs_inj jb js HS.jb_lt hjn (by rw [← HS.off_eq, hoff])
        subst hjb
        refine ⟨{ it with bi := biSeek it.bi k, first := true, valid := true }, ?_, ?_, rfl⟩
        · unfold rSeekTail
          simp only [hoffs, hre, Bool.false_eq_true, if_false]
        · exact OnBlock.rep_live
            { rd_eq := hr, idx_rep := hidx, j_lt := hjn, b_eq := HS.b_eq ▸ hb, off_eq := hoff,
              bi_rep := blockSeek_spec' bok HS.bi_rep } rfl rfl
            (fun _ => hlb) nofun
  · refine ⟨{ it with valid := false }, ?_, ?_, rfl⟩
    · unfold rSeekTail
      simp only [idxOffset_end ok hidx]
    · refine Rep.of_dead hr hidx (fun b hb => ?_) rfl (.inr (Nat.le_of_eq (lb_end ok hjs).symm))
      obtain ⟨jb, p, HS⟩ := hh b hb
      exact ⟨jb, p, HS, fun hlt => absurd hlt (Nat.lt_irrefl _)⟩

theorem ite_true_eq_false {c : Prop} [Decidable c] {b : Bool} :
    (if c then true else b) = false ↔ ¬ c ∧ b = false := by
  by_cases h : c
  · simp [h]
  · simp [h]

/-- `reader_iter_seek` leaves the index iterator alone when the target lies between the key the block
    iterator stands on and the separator the index iterator stands on -/
theorem noIndexSeek_facts {it : RIter} {k : Bytes} (h : needsIndexSeek it k = false) :
    it.first = false ∧ it.b.isNone = false ∧ biValid it.bi = true ∧ bcmp it.bi.key k ≠ .gt ∧
    biValid it.idx = true ∧ bcmp it.idx.key k ≠ .lt := by
  simp only [needsIndexSeek, ite_true_eq_false, Bool.or_eq_true, not_or, Bool.not_eq_true,
    Bool.not_eq_true', Bool.not_eq_false, beq_iff_eq, and_true] at h
  exact ⟨h.1.1, h.1.2, h.2.1, h.2.2.1, h.2.2.2.1, h.2.2.2.2⟩

theorem sep_lt_of_key_le (ok : TableOK r t) {j p : Nat} {k : Bytes} (hj : j < t.nb)
    (hp : p < (t.view j).n) (hk : bcmp ((t.view j).key p) k ≠ .gt) :
    ∀ i, i < j → bcmp (t.sep i) k = .lt := by
  intro i hi
  have h0 : bcmp ((t.view j).key 0) k ≠ .gt :=
    bcmp_le_trans ((ok.block_ok j hj).sorted.getElem?_le (Nat.zero_le p)
      ((t.view j).getElem? (Nat.lt_of_le_of_lt (Nat.zero_le p) hp)) ((t.view j).getElem? hp)) hk
  cases j with
  | zero => omega
  | succ j' =>
    have h1 : bcmp (t.sep j') k = .lt := bcmp_lt_le_trans (ok.sep_hi j' hj) h0
    rcases Nat.lt_succ_iff_lt_or_eq.mp hi with hi | rfl
    · exact bcmp_lt_trans (BlockIter.key_lt_of_sorted ok.index_ok.sorted hi (by rw [ok.index_n]; omega)) h1
    · exact h1

end RI

open RI in
/-- **reader_iter_seek** refines `specSeek`, for every key, from every state -/
theorem rSeek_spec {r : Rd} {t : TableView} (ok : TableOK r t) {it : RIter} {c : Cur}
    (h : Rep r t it c) (k : Bytes) :
    ∃ it', rSeek it k = some it' ∧ Rep r t it' ⟨lowerBound t.entries k, false⟩ ∧
      it'.kind = it.kind := by
  obtain ⟨ji, hidx, hh⟩ := h.heldS
  have hhS : ∀ b, it.b = some b → ∃ jb p, HeldS t it.blockOffset it.bi b jb p := fun b hb =>
    let ⟨jb, p, HS, _⟩ := hh b hb
    ⟨jb, p, HS⟩
  rw [rSeek_eq]
  cases hn : needsIndexSeek it k with
  | true =>
    exact rSeekTail_spec ok (it := { it with idx := biSeek it.idx k }) h.rd_eq
      (blockSeek_spec' ok.index_ok hidx) hhS
  | false =>
    obtain ⟨_, f2, f3, f4, f5, f6⟩ := noIndexSeek_facts hn
    cases hb : it.b with
    | none => rw [hb] at f2; cases f2
    | some b =>
      obtain ⟨jb, p, HS, hjb⟩ := hh b hb
      have hji : ji < t.index.2.n := (biValid_iff ok.index_ok hidx).mp f5
      have hjb := hjb (ok.index_n ▸ hji)
      subst hjb
      have hp : p < (t.view jb).n := (biValid_iff (ok.block_ok _ HS.jb_lt) HS.bi_rep).mp f3
      rw [HS.bi_rep.key_eq hp] at f4
      rw [hidx.key_eq hji] at f6
      have hlb : lowerBound t.index.2.ents k = jb :=
        BlockIter.lowerBound_iff.mpr ⟨Nat.le_of_lt hji, sep_lt_of_key_le ok HS.jb_lt hp f4, fun _ => f6⟩
      rw [← hlb] at hidx
      exact rSeekTail_spec ok h.rd_eq hidx hhS

namespace RI
variable {r : Rd} {t : TableView}

/-- `reader_iter` is `reader_iter_init` at the empty key, whose lower bound is the first entry; `mk` is what
    either does to a fresh block iterator -/
theorem init_tail (ok : TableOK r t) (kind : Kind) (k : Bytes) {idx : BI} (mk : BI → BI)
    (hidx : BRep t.index.1 t.index.2 idx (lowerBound t.index.2.ents k))
    (hmk : ∀ j bi0, j < t.nb → BRep (t.blk j) (t.view j) bi0 (t.view j).n →
      BRep (t.blk j) (t.view j) (mk bi0) (lowerBound (t.view j).ents k)) :
    (blockAtIndex r idx = some none ∧ lowerBound t.entries k = t.entries.length) ∨
    (∃ j bi0, blockAtIndex r idx = some (some (t.off j, t.blk j, bi0)) ∧
      Rep r t { r := r, b := some (t.blk j), bi := mk bi0, idx := idx, kind := kind, blockOffset := t.off j }
        ⟨lowerBound t.entries k, false⟩) := by
  generalize hjs : lowerBound t.index.2.ents k = js at hidx
  rcases Nat.lt_or_eq_of_le (idx_le ok hidx) with hjn | rfl
  · obtain ⟨bi0, hblk, hbi0⟩ := blockAtIndex_spec ok hidx hjn
    exact .inr ⟨js, bi0, hblk, OnBlock.rep_live
      { rd_eq := rfl, idx_rep := hidx, j_lt := hjn, b_eq := rfl, off_eq := rfl,
        bi_rep := hmk js bi0 hjn hbi0 } rfl rfl
      (fun _ => lb_decomp ok hjn hjs) nofun⟩
  · exact .inl ⟨blockAtIndex_end ok hidx, lb_end ok hjs⟩

end RI

open RI in
/-- **reader_iter / reader_iter_init**: never aborts; NULL only if nothing is at or after the start key;
    otherwise the new iterator represents the cursor at the lower bound of the start key
    (`seekTo = none`: start = empty key = first entry). -/
theorem readerIterInit_spec {r : Rd} {t : TableView} (ok : TableOK r t) (seekTo : Option Bytes)
    (kind : Kind) :
    (readerIterInit true r seekTo kind = some none ∧
      lowerBound t.entries (seekTo.getD []) = t.entries.length) ∨
    (∃ it, readerIterInit true r seekTo kind = some (some it) ∧ it.kind = kind ∧
      Rep r t it ⟨lowerBound t.entries (seekTo.getD []), false⟩) := by
  obtain ⟨idx0, hinit, hidx0⟩ := biInit_spec ok.index_ok
  rw [← ok.index_blk] at hinit
  cases seekTo with
  | none =>
    rcases init_tail ok kind [] biSeekToFirst
        (by rw [lowerBound_empty_key]; exact biSeekToFirst_spec ok.index_ok hidx0)
        (fun j bi0 hj h => by rw [lowerBound_empty_key]; exact biSeekToFirst_spec (ok.block_ok j hj) h)
      with ⟨hblk, hlen⟩ | ⟨j, bi0, hblk, hrep⟩
    · exact .inl ⟨by simp only [readerIterInit, hinit, hblk], hlen⟩
    · exact .inr ⟨_, by simp only [readerIterInit, hinit, hblk, if_true], rfl, hrep⟩
  | some k =>
    rcases init_tail ok kind k (biSeek · k) (blockSeek_spec' ok.index_ok hidx0)
        (fun j bi0 hj h => blockSeek_spec' (ok.block_ok j hj) h)
      with ⟨hblk, hlen⟩ | ⟨j, bi0, hblk, hrep⟩
    · exact .inl ⟨by simp only [readerIterInit, hinit, hblk], hlen⟩
    · exact .inr ⟨_, by simp only [readerIterInit, hinit, hblk, if_true], rfl, hrep⟩

/-- running a history on the implementation: `next` contributes the returned entry (or `none` for
    failure), `seek` contributes `none`; the outer `none` = the process aborted -/
def rRun : RIter → List IOp → Option (List (Option Entry))
  | _, [] => some []
  | it, .next :: ops =>
    match rNext true it with
    | none => none
    | some (e, it') => (rRun it' ops).map (e :: ·)
  | it, .seek k :: ops =>
    match rSeek it k with
    | none => none
    | some it' => (rRun it' ops).map (none :: ·)

theorem rRun_spec {r : Rd} {t : TableView} (ok : TableOK r t) :
    ∀ (ops : List IOp) (it : RIter) (c : Cur), Rep r t it c →
      rRun it ops = some (specRun it.kind t.entries c ops) := by
  intro ops
  induction ops with
  | nil => intro it c _; rfl
  | cons op ops ih =>
    intro it c h
    cases op with
    | next =>
      obtain ⟨it', e, hrep, hk⟩ := rNext_spec ok h
      simp only [rRun, e, specRun]
      rw [ih it' _ hrep, hk]; rfl
    | seek k =>
      obtain ⟨it', e, hrep, hk⟩ := rSeek_spec ok h k
      simp only [rRun, e, specRun]
      rw [ih it' _ hrep, hk]; rfl

/-- **C03**: on an iterator obtained from the reader (any kind, with or without a start key), every finite
    history of `next` / `seek` calls returns exactly what the abstract cursor returns. -/
theorem C03_history {r : Rd} {t : TableView} (ok : TableOK r t) (seekTo : Option Bytes) (kind : Kind)
    {it₀ : RIter} (h0 : readerIterInit true r seekTo kind = some (some it₀)) (ops : List IOp) :
    rRun it₀ ops =
      some (specRun kind t.entries ⟨lowerBound t.entries (seekTo.getD []), false⟩ ops) := by
  rcases readerIterInit_spec ok seekTo kind with ⟨h1, _⟩ | ⟨it, h1, hk, hrep⟩
  · rw [h1] at h0; cases h0
  · rw [h1] at h0
    have e : it = it₀ := Option.some.inj (Option.some.inj h0)
    subst e
    rw [rRun_spec ok ops it _ hrep, hk]

namespace RI

def specEnd (kind : Kind) (es : List Entry) : Cur → List IOp → Cur
  | c, [] => c
  | c, .next :: ops => specEnd kind es (specNext kind es c).2 ops
  | _, .seek k :: ops => specEnd kind es (specSeek es k) ops

theorem specRun_append (kind : Kind) (es : List Entry) : ∀ (a b : List IOp) (c : Cur),
    specRun kind es c (a ++ b) = specRun kind es c a ++ specRun kind es (specEnd kind es c a) b := by
  intro a
  induction a with
  | nil => intro b c; rfl
  | cons op a ih =>
    intro b c
    cases op with
    | next => simp only [List.cons_append, specRun, specEnd, ih]
    | seek k => simp only [List.cons_append, specRun, specEnd, ih]

theorem specRun_length (kind : Kind) (es : List Entry) : ∀ (a : List IOp) (c : Cur),
    (specRun kind es c a).length = a.length := by
  intro a
  induction a with
  | nil => intro c; rfl
  | cons op a ih =>
    intro c
    cases op with
    | next => simp only [specRun, List.length_cons, ih]
    | seek k => simp only [specRun, List.length_cons, ih]

theorem specRun_stuck (kind : Kind) (es : List Entry) : ∀ (m : Nat) (c : Cur), c.stuck = true →
    specRun kind es c (List.replicate m .next) = List.replicate m none := by
  intro m
  induction m with
  | zero => intro c _; rfl
  | succ m ih =>
    intro c hc
    simp only [List.replicate_succ, specRun, specNext_stuck kind es hc, ih c hc]

/-- what `m` successive `next` calls return: the entries of `F`, then failures -/
def drainOut (F : List Entry) (m : Nat) : List (Option Entry) :=
  (F.take m).map some ++ List.replicate (m - F.length) none

theorem drainOut_nil (m : Nat) : drainOut [] m = List.replicate m none := by
  simp [drainOut]

theorem drainOut_full (F : List Entry) {m : Nat} (h : F.length ≤ m) :
    drainOut F m = F.map some ++ List.replicate (m - F.length) none := by
  unfold drainOut; rw [List.take_of_length_le h]

theorem specRun_drain (kind : Kind) (es : List Entry) : ∀ (m i : Nat),
    specRun kind es ⟨i, false⟩ (List.replicate m .next) =
      drainOut ((es.drop i).takeWhile fun e => inBound kind e.key) m := by
  intro m
  induction m with
  | zero => intro i; simp [drainOut, specRun]
  | succ m ih =>
    intro i
    have fail : ∀ (F : List Entry), F = [] → none :: specRun kind es ⟨i, true⟩ (List.replicate m .next) =
        drainOut F (m + 1) := fun F hF => by
      rw [hF, drainOut_nil, specRun_stuck kind es m ⟨i, true⟩ rfl, List.replicate_succ]
    simp only [List.replicate_succ, specRun]
    by_cases hi : i < es.length
    · rw [specNext_at kind (List.getElem?_eq_getElem hi), List.drop_eq_getElem_cons hi, List.takeWhile_cons]
      split
      · simp only [ih, drainOut, List.take_succ_cons, List.map_cons, List.cons_append,
          List.length_cons, Nat.add_sub_add_right]
      · exact fail _ rfl
    · rw [specNext_end kind (List.getElem?_eq_none (Nat.not_lt.mp hi))]
      exact fail _ (by rw [List.drop_eq_nil_of_le (Nat.not_lt.mp hi), List.takeWhile_nil])

/-! ### the in-bound entries at / after the lower bound form a contiguous run of the sorted list -/

theorem filter_eq_takeWhile {α} (P : α → Bool) : ∀ (l : List α),
    l.Pairwise (fun a b => P b = true → P a = true) → l.filter P = l.takeWhile P := by
  intro l
  induction l with
  | nil => intro _; rfl
  | cons a l ih =>
    intro h
    obtain ⟨h1, h2⟩ := List.pairwise_cons.mp h
    rw [List.filter_cons, List.takeWhile_cons]
    by_cases ha : P a = true
    · rw [if_pos ha, if_pos ha, ih h2]
    · rw [if_neg ha, if_neg ha, List.filter_eq_nil_iff]
      intro b hb hPb
      exact ha (h1 b hb hPb)

theorem filter_run {es : List Entry} (hs : StrictSorted es) (k : Bytes) (P Q : Entry → Bool)
    (h1 : ∀ e, bcmp e.key k = .lt → P e = false) (h2 : ∀ e, bcmp e.key k ≠ .lt → P e = Q e)
    (h3 : ∀ a b : Entry, bcmp a.key k ≠ .lt → bcmp a.key b.key = .lt → Q b = true → Q a = true) :
    es.filter P = (es.drop (lowerBound es k)).takeWhile Q := by
  conv => lhs; rw [← List.take_append_drop (lowerBound es k) es]
  have e1 : (es.take (lowerBound es k)).filter P = [] := by
    rw [List.filter_eq_nil_iff]; intro a ha; rw [h1 a (lt_of_mem_take_lowerBound ha)]; exact nofun
  rw [List.filter_append, e1, List.nil_append,
    List.filter_congr fun e he => h2 e (not_lt_of_mem_drop_lowerBound hs.sorted he)]
  refine filter_eq_takeWhile Q _ ?_
  exact List.Pairwise.imp_of_mem
    (fun {a b} ha _ hab => h3 a b (not_lt_of_mem_drop_lowerBound hs.sorted ha) hab)
    (List.Pairwise.sublist (List.drop_sublist _ _) hs)

theorem filter_get {es : List Entry} (hs : StrictSorted es) (k : Bytes) :
    es.filter (fun e => bcmp e.key k == .eq) =
      (es.drop (lowerBound es k)).takeWhile fun e => inBound (.get k) e.key := by
  refine filter_run hs k _ _ (fun e he => by rw [he]; rfl) (fun _ _ => rfl) fun a b ha hab hb => ?_
  simp only [inBound, beq_iff_eq] at hb ⊢
  rw [(bcmp_eq_iff _ _).mp hb] at hab
  exact absurd hab ha

theorem filter_pfx {es : List Entry} (hs : StrictSorted es) (p : Bytes) :
    es.filter (fun e => isPrefix p e.key) =
      (es.drop (lowerBound es p)).takeWhile fun e => inBound (.pfx p) e.key := by
  refine filter_run hs p _ _ (fun e he => ?_) (fun _ _ => rfl) fun a b ha hab hb => ?_
  · cases hp : isPrefix p e.key with
    | false => rfl
    | true => exact absurd ((bcmp_swap' _ _).mpr he) (bcmp_prefix hp)
  · obtain ⟨r, hr⟩ := isPrefix_iff_append.mp hb
    rw [hr] at hab
    exact isPrefix_of_between p r ha (by rw [hab]; exact nofun)

theorem filter_range {es : List Entry} (hs : StrictSorted es) (k0 k1 : Bytes) :
    es.filter (fun e => ble k0 e.key && ble e.key k1) =
      (es.drop (lowerBound es k0)).takeWhile fun e => inBound (.range k1) e.key := by
  refine filter_run hs k0 _ _ (fun e he => ?_) (fun e he => ?_) fun a b _ hab hb => ?_
  · have : ble k0 e.key = false := by unfold ble; rw [(bcmp_swap _ _).mp he]; rfl
    rw [this]; rfl
  · have : ble k0 e.key = true := bne_iff_ne.mpr ((bcmp_not_lt_iff _ _).mp he)
    rw [this]; rfl
  · simp only [inBound, bne_iff_ne, ne_eq] at hb ⊢
    rw [bcmp_lt_le_trans hab hb]; exact nofun

/-- in the shape `drain_spec` produces at the empty key, whose lower bound is 0 -/
theorem filter_iter (es : List Entry) :
    es = (es.drop 0).takeWhile fun e => inBound .iter e.key := by
  rw [List.drop_zero]
  induction es with
  | nil => rfl
  | cons x xs ih =>
    rw [List.takeWhile_cons, if_pos (show inBound Kind.iter x.key = true from rfl), ← ih]

end RI

/-! ### corollaries: C01 (full iteration), C02 (get / prefix / range), stickiness -/

open RI

section Corollaries
variable {r : Rd} {t : TableView}

theorem readerIterInit_null (ok : TableOK r t) {seekTo : Option Bytes} {kind : Kind}
    (h : readerIterInit true r seekTo kind = some none) :
    lowerBound t.entries (seekTo.getD []) = t.entries.length := by
  rcases readerIterInit_spec ok seekTo kind with ⟨_, h1⟩ | ⟨it, h1, _⟩
  · exact h1
  · rw [h1] at h; cases h

theorem drain_spec (ok : TableOK r t) (seekTo : Option Bytes) (kind : Kind) {it₀ : RIter}
    (h0 : readerIterInit true r seekTo kind = some (some it₀)) (m : Nat) :
    rRun it₀ (List.replicate m .next) = some (drainOut
      ((t.entries.drop (lowerBound t.entries (seekTo.getD []))).takeWhile fun e => inBound kind e.key) m) := by
  rw [C03_history ok seekTo kind h0, specRun_drain]

/-- the three lookups at once: `hsel` is `filter_get`, `filter_pfx` or `filter_range`; NULL only if nothing is
    selected -/
theorem TableOK.select (ok : TableOK r t) (kind : Kind) (start : Bytes) {P : Entry → Bool}
    (hsel : t.entries.filter P =
      (t.entries.drop (lowerBound t.entries start)).takeWhile fun e => inBound kind e.key) :
    (t.entries.filter P = [] ∧ readerIterInit true r (some start) kind = some none) ∨
    (∃ it₀, readerIterInit true r (some start) kind = some (some it₀) ∧
      ∀ m, rRun it₀ (List.replicate m .next) = some (drainOut (t.entries.filter P) m)) := by
  rw [hsel]
  rcases readerIterInit_spec ok (some start) kind with ⟨h0, h1⟩ | ⟨it, h0, _, _⟩
  · rw [Option.getD_some] at h1
    exact .inl ⟨by rw [h1, List.drop_length]; rfl, h0⟩
  · exact .inr ⟨it, h0, drain_spec ok (some start) kind h0⟩

theorem C01_iterate_m (ok : TableOK r t) {it₀ : RIter}
    (h0 : readerIterInit true r none .iter = some (some it₀)) (m : Nat) :
    rRun it₀ (List.replicate m .next) = some (drainOut t.entries m) := by
  rw [drain_spec ok none .iter h0 m]
  simp only [Option.getD_none, lowerBound_empty_key]
  rw [← filter_iter]

theorem C01_iterate (ok : TableOK r t) {it₀ : RIter}
    (h0 : readerIterInit true r none .iter = some (some it₀)) :
    rRun it₀ (List.replicate (t.entries.length + 1) .next) = some (t.entries.map some ++ [none]) := by
  rw [C01_iterate_m ok h0, drainOut_full _ (Nat.le_succ _)]
  simp

theorem C01_null (ok : TableOK r t) (h0 : readerIterInit true r none .iter = some none) :
    t.entries = [] := by
  have := readerIterInit_null ok h0
  simp only [Option.getD_none, lowerBound_empty_key] at this
  exact List.eq_nil_of_length_eq_zero this.symm

/-- **C02 (get)**: a fresh `get k` iterator returns exactly the entries with key `k`, then failures -/
theorem C02_get (ok : TableOK r t) (k : Bytes) {it₀ : RIter}
    (h0 : readerIterInit true r (some k) (.get k) = some (some it₀)) (m : Nat) :
    rRun it₀ (List.replicate m .next) =
      some (drainOut (t.entries.filter fun e => bcmp e.key k == .eq) m) := by
  rw [drain_spec ok (some k) (.get k) h0 m, filter_get ok.sorted k]; rfl

/-- **C02 (prefix)**: a fresh `get_prefix p` iterator returns exactly the entries whose key starts with `p` -/
theorem C02_prefix (ok : TableOK r t) (p : Bytes) {it₀ : RIter}
    (h0 : readerIterInit true r (some p) (.pfx p) = some (some it₀)) (m : Nat) :
    rRun it₀ (List.replicate m .next) =
      some (drainOut (t.entries.filter fun e => isPrefix p e.key) m) := by
  rw [drain_spec ok (some p) (.pfx p) h0 m, filter_pfx ok.sorted p]; rfl

/-- **C02 (range)**: a fresh `get_range k0 k1` iterator returns exactly the entries with `k0 ≤ key ≤ k1` -/
theorem C02_range (ok : TableOK r t) (k0 k1 : Bytes) {it₀ : RIter}
    (h0 : readerIterInit true r (some k0) (.range k1) = some (some it₀)) (m : Nat) :
    rRun it₀ (List.replicate m .next) =
      some (drainOut (t.entries.filter fun e => ble k0 e.key && ble e.key k1) m) := by
  rw [drain_spec ok (some k0) (.range k1) h0 m, filter_range ok.sorted k0 k1]; rfl

theorem drainOut_filter (es : List Entry) (P : Entry → Bool) :
    drainOut (es.filter P) (es.length + 1) =
      (es.filter P).map some ++ List.replicate (es.length + 1 - (es.filter P).length) none :=
  drainOut_full _ (Nat.le_succ_of_le (List.length_filter_le _ _))

/-- **C03 (sticky failure)**: after any history `ops`, if a `next` fails then every directly following
    `next` fails as well (until a `seek`) -/
theorem C03_sticky (ok : TableOK r t) (seekTo : Option Bytes) (kind : Kind) {it₀ : RIter}
    (h0 : readerIterInit true r seekTo kind = some (some it₀)) (ops : List IOp) (m : Nat)
    {out : List (Option Entry)}
    (hrun : rRun it₀ (ops ++ .next :: List.replicate m .next) = some out)
    (hfail : out[ops.length]? = some none) :
    out.drop ops.length = List.replicate (m + 1) none := by
  rw [C03_history ok seekTo kind h0, specRun_append] at hrun
  have hrun := (Option.some.inj hrun).symm
  subst hrun
  have hl := specRun_length kind t.entries ops ⟨lowerBound t.entries (seekTo.getD []), false⟩
  rw [List.getElem?_append_right (by omega), hl, Nat.sub_self] at hfail
  rw [List.drop_append_of_le_length (by omega), ← hl, List.drop_length, List.nil_append]
  simp only [specRun, List.getElem?_cons_zero, Option.some.injEq] at hfail ⊢
  rw [hfail, specRun_stuck _ _ _ _ (specNext_none_stuck _ _ _ hfail), List.replicate_succ]

/-- stickiness on the implementation state itself: after a failing `next` the iterator is not valid,
    and `next` keeps failing without changing the state -/
theorem rNext_fail_sticky (ok : TableOK r t) {it it' : RIter} {c : Cur} (h : Rep r t it c)
    (hn : rNext true it = some (none, it')) :
    it'.valid = false ∧ rNext true it' = some (none, it') := by
  obtain ⟨it2, e, hrep, _⟩ := rNext_spec ok h
  rw [e] at hn
  have h1 : (specNext it.kind t.entries c).1 = none := congrArg Prod.fst (Option.some.inj hn)
  have h2 : it2 = it' := congrArg Prod.snd (Option.some.inj hn)
  subst h2
  have hst := specNext_none_stuck _ _ _ h1
  have hv : it2.valid = false := by
    cases hv : it2.valid with
    | false => rfl
    | true => have := hrep.live hv; rw [hst] at this; cases this
  exact ⟨hv, rNext_dead hv⟩

end Corollaries

/-! ### non-vacuity of the specification side: a concrete history on five entries
    (seek to the key just returned, backward seek, seek past the end, seek between keys, run into the bound) -/

example :
    specRun (.range [3]) [⟨[1], [10]⟩, ⟨[2], [20]⟩, ⟨[2, 5], [25]⟩, ⟨[3], [30]⟩, ⟨[4], [40]⟩] ⟨0, false⟩
      [.next, .next, .seek [2], .next, .seek [0], .next, .seek [9], .next, .next, .seek [2, 5],
       .next, .next, .next, .next] =
      [some ⟨[1], [10]⟩, some ⟨[2], [20]⟩, none, some ⟨[2], [20]⟩, none, some ⟨[1], [10]⟩, none, none,
       none, none, some ⟨[2, 5], [25]⟩, some ⟨[3], [30]⟩, none, none] := by decide

example :
    specRun (.pfx [2]) [⟨[1], [10]⟩, ⟨[2], [20]⟩, ⟨[2, 5], [25]⟩, ⟨[3], [30]⟩, ⟨[4], [40]⟩]
      ⟨lowerBound [⟨[1], [10]⟩, ⟨[2], [20]⟩, ⟨[2, 5], [25]⟩, ⟨[3], [30]⟩, ⟨[4], [40]⟩] [2], false⟩
      [.next, .next, .next, .next, .seek [2, 5], .next, .next] =
      [some ⟨[2], [20]⟩, some ⟨[2, 5], [25]⟩, none, none, none, some ⟨[2, 5], [25]⟩, none] := by decide

end Mtbl
