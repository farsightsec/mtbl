import MtblModel.WriteAll
/-
  Proofs about `_write_all` (mtbl/writer.c) as modelled in MtblModel/WriteAll.lean  (check C20).  What holds for
  every script is proved by induction along the loop (`go_accepted`, `go_ok`, `go_rest`, `go_calls`); what depends on
  the outcomes comes from `go_prefix`: a benign prefix of the script advances the loop by the bytes it accepts.

  Termination: `writeAllGo` recurses on the outcome script, a finite list, and every iteration of the C loop
  consumes exactly one outcome (`termination_by script.length`); once the script is exhausted every further
  write(2) is `full`, which ends the loop.  An infinite stream of EINTRs (a livelock of the C loop) is therefore
  outside the model; everything below is a statement about all FINITE interruption patterns.
-/
namespace Mtbl

/-- outcomes after which the C loop carries on: a full write, EINTR, a short write of at least one byte -/
def benign (script : List WOut) : Prop :=
  ∀ o ∈ script, o = .full ∨ o = .eintr ∨ ∃ n, o = .short n ∧ 1 ≤ n

/-- bytes a write(2) call for `size` bytes accepts under outcome `o` -/
def WOut.got (o : WOut) (size : Nat) : Nat :=
  match o with
  | .full => size
  | .short n => min n size
  | .eintr => 0
  | .zero => 0
  | .error => 0

/-- bytes of a `size`-byte buffer still unaccepted after the loop has consumed the outcomes `pre`
    (meaningful for a benign prefix; "bytes accepted by the prefix" = `size - remaining size pre`) -/
def remaining (size : Nat) : List WOut → Nat
  | [] => size
  | o :: os => remaining (size - o.got size) os

/-- the calls form a chain: each call is for exactly the suffix `[off, L)` that is not yet accepted, it is
    never for 0 bytes, and the next call starts `got` bytes further, where `got` is what the outcome consumed by
    this call accepted.  (The i-th call consumes the i-th outcome; beyond the script outcomes are `full`.) -/
def CallChain (L : Nat) : Nat → List (Nat × Nat) → List WOut → Prop
  | _, [], _ => True
  | off, (o, s) :: cs, script =>
    o = off ∧ s = L - off ∧ off < L ∧ CallChain L (off + (script.headD .full).got s) cs script.tail

namespace WA

theorem benign_nil : benign [] := by intro o ho; cases ho

theorem benign_cons {o : WOut} {os : List WOut} (h : benign (o :: os)) :
    (o = .full ∨ o = .eintr ∨ ∃ n, o = .short n ∧ 1 ≤ n) ∧ benign os :=
  ⟨h o (List.mem_cons_self), fun x hx => h x (List.mem_cons_of_mem _ hx)⟩

theorem benign_of_suffix {s t : List WOut} (h : s <:+ t) (hb : benign t) : benign s :=
  fun o ho => hb o (h.subset ho)

theorem got_le (o : WOut) (size : Nat) : o.got size ≤ size := by
  cases o <;> simp [WOut.got] <;> omega

theorem remaining_le (size : Nat) (pre : List WOut) : remaining size pre ≤ size := by
  induction pre generalizing size with
  | nil => simp [remaining]
  | cons o os ih => simp only [remaining]; have := ih (size - o.got size); omega

theorem remaining_zero (pre : List WOut) : remaining 0 pre = 0 := by
  have := remaining_le 0 pre; omega

/-! The four inductions along the loop below go through the nine branches of `writeAllGo` in the order of its
  definition: 1, 2 the script is exhausted (bytes outstanding: one last full write / none); 3 the buffer is complete;
  then, with bytes outstanding, by outcome: 4 `full`, 5 `short` that accepts 0 bytes (assertion), 6 `short` (recursive
  call), 7 `eintr` (recursive call), 8 `zero`, 9 `error` (assertions). -/

theorem go_accepted (buf : Bytes) (done : Nat) (script : List WOut) (r : WARes) :
    ∃ m, (writeAllGo buf done script r).accepted = r.accepted ++ (buf.drop done).take m := by
  fun_induction writeAllGo buf done script r with
  | case1 done r h => exact ⟨buf.length, by simp [List.take_of_length_le]⟩
  | case2 done r h => exact ⟨0, by simp⟩
  | case3 done r o os h => exact ⟨0, by simp⟩
  | case4 done r os h size r' => exact ⟨buf.length, by simp [r', List.take_of_length_le]⟩
  | case5 done r os h size r' n k hk => exact ⟨0, by simp [r']⟩
  | case6 done r os h size r' n k hk ih =>
    obtain ⟨m, hm⟩ := ih
    refine ⟨k + m, ?_⟩
    rw [hm]
    simp only [r', List.append_assoc, ← List.drop_drop]
    rw [← List.take_add]
  | case7 done r os h size r' ih =>
    obtain ⟨m, hm⟩ := ih
    exact ⟨m, by rw [hm]⟩
  | case8 done r os h size r' => exact ⟨0, by simp [r']⟩
  | case9 done r os h size r' => exact ⟨0, by simp [r']⟩

theorem go_ok (buf : Bytes) (done : Nat) (script : List WOut) (r : WARes)
    (hok : (writeAllGo buf done script r).ok = true) :
    r.ok = true ∧ (writeAllGo buf done script r).accepted = r.accepted ++ buf.drop done := by
  fun_induction writeAllGo buf done script r with
  | case1 done r h => exact ⟨hok, rfl⟩
  | case2 done r h => exact ⟨hok, by simp [List.drop_eq_nil_of_le (Nat.le_of_not_lt h)]⟩
  | case3 done r o os h => exact ⟨hok, by simp [List.drop_eq_nil_of_le h]⟩
  | case4 done r os h size r' => exact ⟨hok, rfl⟩
  | case5 done r os h size r' n k hk => simp at hok
  | case6 done r os h size r' n k hk ih =>
    obtain ⟨h1, h2⟩ := ih hok
    refine ⟨h1, ?_⟩
    rw [h2]
    simp only [r', List.append_assoc, ← List.drop_drop, List.take_append_drop]
  | case7 done r os h size r' ih => exact ih hok
  | case8 done r os h size r' => simp at hok
  | case9 done r os h size r' => simp at hok

theorem go_rest (buf : Bytes) (done : Nat) (script : List WOut) (r : WARes) :
    ∃ cs, (writeAllGo buf done script r).calls = r.calls ++ cs ∧
      (writeAllGo buf done script r).rest = script.drop cs.length := by
  fun_induction writeAllGo buf done script r with
  | case1 done r h => exact ⟨[(done, buf.length - done)], rfl, rfl⟩
  | case2 done r h => exact ⟨[], by simp, rfl⟩
  | case3 done r o os h => exact ⟨[], by simp, rfl⟩
  | case4 done r os h size r' => exact ⟨[(done, size)], rfl, rfl⟩
  | case5 done r os h size r' n k hk => exact ⟨[(done, size)], rfl, rfl⟩
  | case6 done r os h size r' n k hk ih =>
    obtain ⟨cs, h1, h2⟩ := ih
    exact ⟨(done, size) :: cs, by rw [h1]; simp [r'], by rw [h2]; simp⟩
  | case7 done r os h size r' ih =>
    obtain ⟨cs, h1, h2⟩ := ih
    exact ⟨(done, size) :: cs, by rw [h1]; simp [r'], by rw [h2]; simp⟩
  | case8 done r os h size r' => exact ⟨[(done, size)], rfl, rfl⟩
  | case9 done r os h size r' => exact ⟨[(done, size)], rfl, rfl⟩

theorem go_calls (buf : Bytes) (done : Nat) (script : List WOut) (r : WARes) :
    ∃ cs, (writeAllGo buf done script r).calls = r.calls ++ cs ∧ CallChain buf.length done cs script := by
  fun_induction writeAllGo buf done script r with
  | case1 done r h => exact ⟨[(done, buf.length - done)], rfl, rfl, rfl, h, trivial⟩
  | case2 done r h => exact ⟨[], by simp, trivial⟩
  | case3 done r o os h => exact ⟨[], by simp, trivial⟩
  | case4 done r os h size r' => exact ⟨[(done, size)], rfl, rfl, rfl, Nat.lt_of_not_le h, trivial⟩
  | case5 done r os h size r' n k hk => exact ⟨[(done, size)], rfl, rfl, rfl, Nat.lt_of_not_le h, trivial⟩
  | case6 done r os h size r' n k hk ih =>
    obtain ⟨cs, h1, h2⟩ := ih
    refine ⟨(done, size) :: cs, ?_, rfl, rfl, Nat.lt_of_not_le h, h2⟩
    rw [h1]; simp [r']
  | case7 done r os h size r' ih =>
    obtain ⟨cs, h1, h2⟩ := ih
    refine ⟨(done, size) :: cs, ?_, rfl, rfl, Nat.lt_of_not_le h, ?_⟩
    · rw [h1]; simp [r']
    · simpa [WOut.got] using h2
  | case8 done r os h size r' => exact ⟨[(done, size)], rfl, rfl, rfl, Nat.lt_of_not_le h, trivial⟩
  | case9 done r os h size r' => exact ⟨[(done, size)], rfl, rfl, rfl, Nat.lt_of_not_le h, trivial⟩

/-! the loop, one iteration at a time (`done < buf.length`: bytes are outstanding) -/
theorem go_exit {buf : Bytes} {done : Nat} (h : buf.length ≤ done) (script : List WOut) (r : WARes) :
    (writeAllGo buf done script r).ok = r.ok ∧ (writeAllGo buf done script r).accepted = r.accepted := by
  cases script <;> rw [writeAllGo] <;> simp only [Nat.not_lt.2 h, ge_iff_le, h, if_true, if_false, and_self]

theorem go_eintr {buf : Bytes} {done : Nat} (h : done < buf.length) (os : List WOut) (r : WARes) :
    writeAllGo buf done (.eintr :: os) r =
      writeAllGo buf done os { r with calls := r.calls ++ [(done, buf.length - done)] } := by
  rw [writeAllGo, if_neg (Nat.not_le.2 h)]

theorem go_short {buf : Bytes} {done n : Nat} (h : done < buf.length) (hn : 1 ≤ n) (os : List WOut) (r : WARes) :
    writeAllGo buf done (.short n :: os) r =
      writeAllGo buf (done + min n (buf.length - done)) os
        { r with calls := r.calls ++ [(done, buf.length - done)],
                 accepted := r.accepted ++ (buf.drop done).take (min n (buf.length - done)) } := by
  rw [writeAllGo, if_neg (Nat.not_le.2 h)]
  simp only
  rw [if_neg (by omega)]

theorem go_full {buf : Bytes} {done : Nat} (h : done < buf.length) (os : List WOut) (r : WARes) :
    writeAllGo buf done (.full :: os) r =
      { r with calls := r.calls ++ [(done, buf.length - done)], accepted := r.accepted ++ buf.drop done, rest := os } := by
  rw [writeAllGo, if_neg (Nat.not_le.2 h)]

theorem go_stop {buf : Bytes} {done : Nat} (h : done < buf.length) {bad : WOut}
    (hbad : bad = .zero ∨ bad = .error ∨ bad = .short 0) (os : List WOut) (r : WARes) :
    writeAllGo buf done (bad :: os) r =
      { r with calls := r.calls ++ [(done, buf.length - done)], ok := false, rest := os } := by
  rcases hbad with rfl | rfl | rfl <;> rw [writeAllGo, if_neg (Nat.not_le.2 h)]
  simp only [Nat.zero_min, if_true]
/-- A benign prefix `pre` of the script advances the loop: it leaves `rem = remaining (buf.length - done) pre` bytes
    outstanding.  If `rem > 0` the loop stands at offset `buf.length - rem` with the rest of the script before it, no
    assertion fired, and exactly the bytes in between accepted; if `rem = 0` it has returned normally with the whole
    suffix accepted, whatever follows `pre`. -/
theorem go_prefix (buf : Bytes) (done : Nat) (pre tl : List WOut) (r : WARes) (hb : benign pre)
    (hlt : done < buf.length) :
    (0 < remaining (buf.length - done) pre → ∃ r', writeAllGo buf done (pre ++ tl) r =
        writeAllGo buf (buf.length - remaining (buf.length - done) pre) tl r' ∧ r'.ok = r.ok ∧
        r'.accepted = r.accepted ++ (buf.drop done).take (buf.length - done - remaining (buf.length - done) pre)) ∧
    (remaining (buf.length - done) pre = 0 → (writeAllGo buf done (pre ++ tl) r).ok = r.ok ∧
        (writeAllGo buf done (pre ++ tl) r).accepted = r.accepted ++ buf.drop done) := by
  induction pre generalizing done r with
  | nil =>
    refine ⟨fun _ => ⟨r, ?_, rfl, ?_⟩, fun h => absurd h (by simp only [remaining]; omega)⟩
    · rw [remaining, Nat.sub_sub_self (Nat.le_of_lt hlt)]; rfl
    · rw [remaining, Nat.sub_self, List.take_zero, List.append_nil]
  | cons o os ih =>
    have hbo := benign_cons hb
    rw [List.cons_append]
    simp only [remaining]
    rcases hbo.1 with rfl | rfl | ⟨n, rfl, hn⟩
    · rw [show WOut.full.got (buf.length - done) = buf.length - done from rfl, Nat.sub_self, remaining_zero, go_full hlt]
      exact ⟨fun h => absurd h (Nat.lt_irrefl 0), fun _ => ⟨rfl, rfl⟩⟩
    · rw [go_eintr hlt]
      exact ih done _ hbo.2 hlt
    · rw [go_short hlt hn, show (WOut.short n).got (buf.length - done) = min n (buf.length - done) from rfl]
      generalize hk : min n (buf.length - done) = k
      have hk' : 1 ≤ k ∧ k ≤ buf.length - done := by omega
      rw [show buf.length - done - k = buf.length - (done + k) by omega]
      by_cases hge : buf.length ≤ done + k
      · -- the short write took everything that was left
        rw [Nat.sub_eq_zero_of_le hge, remaining_zero, (go_exit hge _ _).1, (go_exit hge _ _).2,
          List.take_of_length_le (by rw [List.length_drop]; omega)]
        exact ⟨fun h => absurd h (Nat.lt_irrefl 0), fun _ => ⟨rfl, rfl⟩⟩
      · have hrl := remaining_le (buf.length - (done + k)) os
        obtain ⟨h1, h2⟩ := ih (done + k)
          { r with calls := r.calls ++ [(done, buf.length - done)], accepted := r.accepted ++ (buf.drop done).take k }
          hbo.2 (Nat.not_le.1 hge)
        refine ⟨fun h => ?_, fun h => ?_⟩
        · obtain ⟨r', e, hok, hacc⟩ := h1 h
          refine ⟨r', e, hok, ?_⟩
          rw [hacc]
          simp only [List.append_assoc, ← List.drop_drop]
          rw [← List.take_add]
          congr 2
          omega
        · refine ⟨(h2 h).1, ?_⟩
          rw [(h2 h).2]
          simp only [List.append_assoc, ← List.drop_drop, List.take_append_drop]

end WA

open WA

theorem C20_bytes (buf : Bytes) (script : List WOut) (hb : benign script) (hne : buf ≠ []) :
    (writeAll buf script).ok = true ∧ (writeAll buf script).accepted = buf := by
  have hl : 0 < buf.length := List.length_pos_iff.2 hne
  have hp := go_prefix buf 0 script [] { rest := script } hb hl
  rw [writeAll, if_neg (Nat.ne_of_gt hl)]
  rw [List.append_nil] at hp
  by_cases h0 : remaining (buf.length - 0) script = 0
  · exact hp.2 h0
  · -- the script ran out with bytes outstanding: the next write(2) is `full`
    obtain ⟨r', e, hok, hacc⟩ := hp.1 (Nat.pos_of_ne_zero h0)
    have hrl := remaining_le (buf.length - 0) script
    rw [e, writeAllGo, if_pos (by omega)]
    refine ⟨hok, ?_⟩
    show r'.accepted ++ _ = _
    rw [hacc, Nat.sub_zero]
    exact List.take_append_drop _ buf

theorem C20_calls (buf : Bytes) (script : List WOut) :
    CallChain buf.length 0 (writeAll buf script).calls script := by
  unfold writeAll
  split
  · trivial
  · obtain ⟨cs, h1, h2⟩ := go_calls buf 0 script { rest := script }
    rw [h1]; simpa using h2

namespace WA

theorem chain_head (L : Nat) (off : Nat) (cs : List (Nat × Nat)) (script : List WOut)
    (h : CallChain L off cs script) (h0 : 0 < cs.length) : cs[0].1 = off := by
  cases cs with
  | nil => cases h0
  | cons c cs => exact h.1

theorem chain_getElem (L : Nat) (off : Nat) (cs : List (Nat × Nat)) (script : List WOut)
    (h : CallChain L off cs script) (i : Nat) (hi : i < cs.length) :
    cs[i].1 + cs[i].2 = L ∧ 0 < cs[i].2 ∧ off ≤ cs[i].1 ∧
    (∀ hi' : i + 1 < cs.length, cs[i + 1].1 = cs[i].1 + (script.getD i .full).got cs[i].2) := by
  induction cs generalizing off script i with
  | nil => cases hi
  | cons c cs ih =>
    obtain ⟨o, s⟩ := c
    obtain ⟨rfl, rfl, h3, h4⟩ := h
    cases i with
    | zero =>
      refine ⟨Nat.add_sub_cancel' (Nat.le_of_lt h3), Nat.sub_pos_of_lt h3, Nat.le_refl _, fun hi' => ?_⟩
      rw [List.getElem_cons_succ, chain_head _ _ _ _ h4 (Nat.lt_of_succ_lt_succ hi')]
      cases script <;> rfl
    | succ j =>
      have := ih _ _ h4 j (Nat.lt_of_succ_lt_succ hi)
      refine ⟨this.1, this.2.1, Nat.le_trans (Nat.le_add_right _ _) this.2.2.1, fun hi' => ?_⟩
      rw [List.getElem_cons_succ, this.2.2.2 (Nat.lt_of_succ_lt_succ hi')]
      cases script <;> rfl

end WA

theorem C20_never_false_success (buf : Bytes) (script : List WOut) :
    (writeAll buf script).ok = true → (writeAll buf script).accepted = buf := by
  unfold writeAll
  split
  · intro h; simp at h
  · intro h
    have := go_ok buf 0 script { rest := script } h
    simpa using this.2

theorem C20_error (buf : Bytes) (pre : List WOut) (bad : WOut) (post : List WOut)
    (hb : benign pre) (hbad : bad = .zero ∨ bad = .error ∨ bad = .short 0)
    (hrem : 0 < remaining buf.length pre) :
    (writeAll buf (pre ++ bad :: post)).ok = false ∧
    (writeAll buf (pre ++ bad :: post)).rest = post ∧
    (writeAll buf (pre ++ bad :: post)).accepted = buf.take (buf.length - remaining buf.length pre) := by
  have hl : 0 < buf.length := by have := remaining_le buf.length pre; omega
  have hrl := remaining_le buf.length pre
  obtain ⟨r', e, _, hacc⟩ := (go_prefix buf 0 pre (bad :: post) { rest := pre ++ bad :: post } hb hl).1 hrem
  simp only [Nat.sub_zero, List.drop_zero, List.nil_append] at e hacc
  rw [writeAll, if_neg (Nat.ne_of_gt hl), e, go_stop (by omega) hbad]
  exact ⟨rfl, rfl, hacc⟩

theorem C20_accepted_prefix (buf : Bytes) (script : List WOut) :
    (writeAll buf script).accepted <+: buf := by
  unfold writeAll
  split
  · exact List.nil_prefix
  · obtain ⟨m, hm⟩ := go_accepted buf 0 script { rest := script }
    rw [hm]; simpa using List.take_prefix m buf

theorem C20_frame (stored : Bytes) : (frameWrites stored).flatten = frame stored := by
  simp [frameWrites, frame]

theorem venc_ne_nil (v : Nat) : venc v ≠ [] := by
  unfold venc; split <;> simp

theorem frameWrites_nonempty (stored : Bytes) (h : stored ≠ []) : ∀ b ∈ frameWrites stored, b ≠ [] := by
  intro b hb
  simp only [frameWrites, List.mem_cons, List.not_mem_nil, or_false] at hb
  rcases hb with hb | hb | hb <;> subst hb
  · exact venc_ne_nil _
  · simp [fixed32]
  · exact h

theorem writeAll_rest (buf : Bytes) (script : List WOut) :
    (writeAll buf script).rest = script.drop (writeAll buf script).calls.length := by
  unfold writeAll
  split
  · rfl
  · obtain ⟨cs, h1, h2⟩ := go_rest buf 0 script { rest := script }
    rw [h2, h1]; simp

theorem writeAll_rest_suffix (buf : Bytes) (script : List WOut) : (writeAll buf script).rest <:+ script := by
  rw [writeAll_rest]; exact List.drop_suffix _ _

namespace WA

theorem many_benign (bufs : List Bytes) (script : List WOut) (r : WARes) (hb : benign script)
    (hne : ∀ b ∈ bufs, b ≠ []) (hr : r.ok = true) :
    (writeMany bufs script r).ok = true ∧ (writeMany bufs script r).accepted = r.accepted ++ bufs.flatten := by
  induction bufs generalizing script r with
  | nil => simp [writeMany, hr]
  | cons b bs ih =>
    have h1 := C20_bytes b script hb (hne b List.mem_cons_self)
    have hb' : benign (writeAll b script).rest := benign_of_suffix (writeAll_rest_suffix b script) hb
    simp only [writeMany, h1.1, if_true]
    have := ih (writeAll b script).rest
      { r with accepted := r.accepted ++ (writeAll b script).accepted,
               calls := r.calls ++ (writeAll b script).calls, ok := true } hb'
      (fun x hx => hne x (List.mem_cons_of_mem _ hx)) rfl
    refine ⟨this.1, ?_⟩
    rw [this.2, h1.2]; simp

theorem many_ok (bufs : List Bytes) (script : List WOut) (r : WARes)
    (hok : (writeMany bufs script r).ok = true) :
    (writeMany bufs script r).accepted = r.accepted ++ bufs.flatten := by
  induction bufs generalizing script r with
  | nil => simp [writeMany]
  | cons b bs ih =>
    simp only [writeMany] at hok ⊢
    split at hok
    · rename_i h1
      rw [if_pos h1, ih _ _ hok, C20_never_false_success b script h1]; simp
    · rename_i h1
      simp only [Bool.not_eq_true] at h1
      simp [h1] at hok

theorem many_prefix (bufs : List Bytes) (script : List WOut) (r : WARes) :
    ∃ t, t <+: bufs.flatten ∧ (writeMany bufs script r).accepted = r.accepted ++ t := by
  induction bufs generalizing script r with
  | nil => exact ⟨[], List.nil_prefix, by simp [writeMany]⟩
  | cons b bs ih =>
    simp only [writeMany]
    split
    · rename_i h1
      obtain ⟨t, ht, he⟩ := ih (writeAll b script).rest
        { r with accepted := r.accepted ++ (writeAll b script).accepted,
                 calls := r.calls ++ (writeAll b script).calls, ok := (writeAll b script).ok }
      refine ⟨b ++ t, ?_, ?_⟩
      · simpa using (List.prefix_append_right_inj b).mpr ht
      · rw [he, C20_never_false_success b script h1]; simp
    · refine ⟨(writeAll b script).accepted, ?_, rfl⟩
      exact (C20_accepted_prefix b script).trans (by simp)

end WA

theorem C20_many (bufs : List Bytes) (script : List WOut) (hb : benign script) (hne : ∀ b ∈ bufs, b ≠ []) :
    (writeMany bufs script {}).ok = true ∧ (writeMany bufs script {}).accepted = bufs.flatten := by
  simpa using many_benign bufs script {} hb hne rfl

/-- the writes of a whole file: three per block (data blocks, then the index block), one for the trailer -/
def fileWrites (blocks : List Bytes) (trailer : Bytes) : List Bytes :=
  (blocks.map frameWrites).flatten ++ [trailer]

theorem fileWrites_flatten (blocks : List Bytes) (trailer : Bytes) :
    (fileWrites blocks trailer).flatten = (blocks.map frame).flatten ++ trailer := by
  induction blocks with
  | nil => simp [fileWrites]
  | cons b bs ih =>
    simp only [fileWrites, List.map_cons, List.flatten_cons, List.flatten_append, List.append_assoc] at ih ⊢
    rw [ih, C20_frame]

theorem C20_file (blocks : List Bytes) (trailer : Bytes) (script : List WOut) (hb : benign script)
    (hblocks : ∀ b ∈ blocks, b ≠ []) (htr : trailer ≠ []) :
    (writeMany (fileWrites blocks trailer) script {}).ok = true ∧
    (writeMany (fileWrites blocks trailer) script {}).accepted = (blocks.map frame).flatten ++ trailer := by
  have hne : ∀ b ∈ fileWrites blocks trailer, b ≠ [] := by
    intro b hb
    simp only [fileWrites, List.mem_append, List.mem_flatten, List.mem_map, List.mem_singleton] at hb
    rcases hb with ⟨l, ⟨s, hs, rfl⟩, hbl⟩ | rfl
    · exact frameWrites_nonempty s (hblocks s hs) b hbl
    · exact htr
  have := C20_many (fileWrites blocks trailer) script hb hne
  rw [fileWrites_flatten] at this
  exact this

theorem BB_finish_ne_nil (b : BB) : b.finish ≠ [] := by
  simp [BB.finish, fixed32]

theorem fixed64_length (v : Nat) : (fixed64 v).length = 8 := by simp [fixed64, fixed32]

theorem Meta_write_length (m : Meta) : m.write.length = 512 := by
  simp only [Meta.write, Meta.fields, List.flatMap_cons, List.flatMap_nil, List.length_append, fixed64_length,
    List.length_nil, List.length_replicate, METADATA_SIZE]
  simp [fixed32]

theorem Meta_write_ne_nil (m : Meta) : m.write ≠ [] := by
  intro h; have := Meta_write_length m; rw [h] at this; simp at this

theorem C20_flush_writes (w : W) :
    w.flush.out = w.out ∨
    ∃ stored, w.flush.out = w.out ++ (frameWrites stored).flatten ∧ (w.cfg.compression = 0 → stored ≠ []) := by
  unfold W.flush
  by_cases he : w.data.empty = true
  · simp [he]
  · simp only [he, Bool.false_eq_true, if_false]
    cases hs : (if w.cfg.compression = 0 then some w.data.finish else w.cfg.comp w.data.finish) with
    | none => exact .inl rfl
    | some stored =>
      refine .inr ⟨stored, by simp only [C20_frame], ?_⟩
      intro h0
      simp only [h0, if_true, Option.some.injEq] at hs
      rw [← hs]; exact BB_finish_ne_nil _

theorem C20_finish (w : W) (script : List WOut) (hb : benign script) :
    (writeMany (fileWrites [w.flush.index.finish] w.finishMeta.write) script {}).ok = true ∧
    w.flush.out ++ (writeMany (fileWrites [w.flush.index.finish] w.finishMeta.write) script {}).accepted
      = w.finish := by
  have := C20_file [w.flush.index.finish] w.finishMeta.write script hb
    (by intro b hb; simp only [List.mem_singleton] at hb; subst hb; exact BB_finish_ne_nil _)
    (Meta_write_ne_nil _)
  refine ⟨this.1, ?_⟩
  rw [this.2]
  simp [W.finish, W.finishMeta]

example :
    writeAll [1, 2, 3, 4, 5] [.eintr, .short 2, .eintr, .eintr, .short 1, .full] =
      { accepted := [1, 2, 3, 4, 5], calls := [(0, 5), (0, 5), (2, 3), (2, 3), (2, 3), (3, 2)], ok := true, rest := [] } := by
  decide +kernel

example :
    writeAll [1, 2, 3, 4, 5] [.short 2, .error, .full] =
      { accepted := [1, 2], calls := [(0, 5), (2, 3)], ok := false, rest := [.full] } := by
  decide +kernel

example : (writeAll [1, 2, 3] [.short 7, .zero]).ok = true := by decide +kernel
example : (writeAll [1, 2, 3] [.short 0]).ok = false := by decide +kernel
example : (writeAll [1, 2, 3] [.eintr, .eintr, .zero]).ok = false := by decide +kernel

/-- `C20_calls` rejects a loop that does not advance `buf`, and one that does not shrink `size` -/
example : ¬ CallChain 5 0 [(0, 5), (0, 3)] [.short 2] := by simp [CallChain, WOut.got]
example : ¬ CallChain 5 0 [(0, 5), (2, 5)] [.short 2] := by simp [CallChain, WOut.got]
example : CallChain 5 0 [(0, 5), (2, 3)] [.short 2] := by simp [CallChain, WOut.got]

/-- when the script runs out the unconsumed outcomes are `[]`, and a sequence of `_write_all` calls consumes each
    outcome once: the single EINTR hits the first buffer only -/
example : (writeAll [1, 2] [.eintr]).rest = [] := by decide +kernel
example : (writeAll [1, 2] [.short 2]).rest = [] := by decide +kernel
example : (writeMany [[1, 2], [3]] [.eintr] {}).calls = [(0, 2), (0, 2), (0, 1)] := by decide +kernel

end Mtbl
