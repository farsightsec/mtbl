import MtblModel.Basic
import MtblModel.Sep
import MtblModel.Spec
/-
  `bcmp` (= C `bytes_compare`) is the unsigned bytewise lexicographic order, a strict total order;
  `shortestSep` (= `bytes_shortest_separator`) returns a separator; `lowerBound` facts.
-/
namespace Mtbl

/-! ### `bcmp` is a strict total order -/

theorem bcmp_refl (a : Bytes) : bcmp a a = .eq := by
  induction a with
  | nil => rfl
  | cons x xs ih => simp [bcmp, ih]

theorem bcmp_cons_cons (a b : UInt8) (as bs : Bytes) :
    bcmp (a :: as) (b :: bs) = if a < b then .lt else if b < a then .gt else bcmp as bs := rfl

theorem bcmp_cons_same (a : UInt8) (as bs : Bytes) : bcmp (a :: as) (a :: bs) = bcmp as bs := by
  rw [bcmp_cons_cons, if_neg (UInt8.lt_irrefl a), if_neg (UInt8.lt_irrefl a)]

theorem bcmp_cons_lt_iff {a b : UInt8} {as bs : Bytes} :
    bcmp (a :: as) (b :: bs) = .lt ↔ a < b ∨ (a = b ∧ bcmp as bs = .lt) := by
  rw [bcmp_cons_cons]
  by_cases h1 : a < b
  · rw [if_pos h1]; exact ⟨fun _ => .inl h1, fun _ => rfl⟩
  · rw [if_neg h1]
    by_cases h2 : b < a
    · rw [if_pos h2]
      refine ⟨nofun, ?_⟩
      rintro (h | ⟨rfl, _⟩)
      · exact absurd h h1
      · exact absurd h2 h1
    · have e : a = b := UInt8.le_antisymm (UInt8.not_lt.mp h2) (UInt8.not_lt.mp h1)
      subst e
      rw [if_neg h2]
      exact ⟨fun h => .inr ⟨rfl, h⟩, fun h => h.elim (absurd · h1) (·.2)⟩

theorem bcmp_eq_iff (a b : Bytes) : bcmp a b = .eq ↔ a = b := by
  constructor
  · intro h
    fun_induction bcmp a b with
    | case1 => rfl
    | case2 => cases h
    | case3 => cases h
    | case4 a as b bs hlt => cases h
    | case5 a as b bs h1 h2 => cases h
    | case6 a as b bs h1 h2 ih =>
      rw [UInt8.le_antisymm (UInt8.not_lt.mp h2) (UInt8.not_lt.mp h1), ih h]
  · rintro rfl; exact bcmp_refl a

theorem ne_of_bcmp_lt {a b : Bytes} (h : bcmp a b = .lt) : b ≠ a := by
  intro he; subst he; rw [bcmp_refl] at h; simp at h

theorem bcmp_beq_eq_iff {a b : Bytes} : (bcmp a b == Ordering.eq) = true ↔ a = b := by
  rw [beq_iff_eq, bcmp_eq_iff]

theorem bcmp_swap (a b : Bytes) : bcmp a b = .lt ↔ bcmp b a = .gt := by
  fun_induction bcmp a b with
  | case1 => simp [bcmp]
  | case2 => simp [bcmp]
  | case3 => simp [bcmp]
  | case4 a as b bs hlt =>
    simp [bcmp, hlt, UInt8.lt_asymm hlt]
  | case5 a as b bs h1 h2 => simp [bcmp, h2]
  | case6 a as b bs h1 h2 ih => simp [bcmp, h1, h2, ih]

theorem bcmp_swap' (a b : Bytes) : bcmp a b = .gt ↔ bcmp b a = .lt := (bcmp_swap b a).symm

theorem bcmp_total (a b : Bytes) : bcmp a b = .lt ∨ a = b ∨ bcmp b a = .lt := by
  cases h : bcmp a b with
  | lt => exact .inl rfl
  | eq => exact .inr (.inl ((bcmp_eq_iff a b).mp h))
  | gt => exact .inr (.inr ((bcmp_swap' a b).mp h))

theorem bcmp_lt_irrefl (a : Bytes) : bcmp a a ≠ .lt := by simp [bcmp_refl]

theorem bcmp_lt_trans {a b c : Bytes} : bcmp a b = .lt → bcmp b c = .lt → bcmp a c = .lt := by
  induction a generalizing b c with
  | nil =>
    intro h1 h2
    cases b with
    | nil => cases h1
    | cons y ys =>
      cases c with
      | nil => cases h2
      | cons z zs => rfl
  | cons x xs ih =>
    cases b with
    | nil => intro h1; cases h1
    | cons y ys =>
      cases c with
      | nil => intro _ h2; cases h2
      | cons z zs =>
        simp only [bcmp_cons_lt_iff]
        rintro (h1 | ⟨rfl, h1⟩) (h2 | ⟨rfl, h2⟩)
        · exact .inl (UInt8.lt_trans h1 h2)
        · exact .inl h1
        · exact .inl h2
        · exact .inr ⟨rfl, ih h1 h2⟩

/-- `a ≤ b` in the form used by the model: `bcmp a b ≠ .gt` -/
theorem bcmp_le_iff (a b : Bytes) : bcmp a b ≠ .gt ↔ (bcmp a b = .lt ∨ a = b) := by
  constructor
  · intro h
    cases h' : bcmp a b with
    | lt => exact .inl rfl
    | eq => exact .inr ((bcmp_eq_iff a b).mp h')
    | gt => exact absurd h' h
  · rintro (h | rfl)
    · simp [h]
    · simp [bcmp_refl]

theorem bcmp_le_lt_trans {a b c : Bytes} : bcmp a b ≠ .gt → bcmp b c = .lt → bcmp a c = .lt := by
  intro h1 h2
  rcases (bcmp_le_iff a b).mp h1 with h | rfl
  · exact bcmp_lt_trans h h2
  · exact h2

theorem bcmp_lt_le_trans {a b c : Bytes} : bcmp a b = .lt → bcmp b c ≠ .gt → bcmp a c = .lt := by
  intro h1 h2
  rcases (bcmp_le_iff b c).mp h2 with h | rfl
  · exact bcmp_lt_trans h1 h
  · exact h1

theorem bcmp_le_trans {a b c : Bytes} : bcmp a b ≠ .gt → bcmp b c ≠ .gt → bcmp a c ≠ .gt := by
  intro h1 h2
  rcases (bcmp_le_iff b c).mp h2 with h | rfl
  · rw [bcmp_le_lt_trans h1 h]; simp
  · exact h1

theorem bcmp_gt_trans {a b c : Bytes} : bcmp a b = .gt → bcmp b c = .gt → bcmp a c = .gt := by
  intro h1 h2
  rw [bcmp_swap'] at h1 h2 ⊢
  exact bcmp_lt_trans h2 h1

theorem bcmp_lt_asymm {a b : Bytes} (h : bcmp a b = .lt) : bcmp b a ≠ .lt := by
  rw [(bcmp_swap a b).mp h]; simp

theorem bcmp_not_lt_iff (a b : Bytes) : bcmp a b ≠ .lt ↔ bcmp b a ≠ .gt := by
  rw [Ne, Ne, bcmp_swap' b a]

theorem bcmp_le_antisymm {a b : Bytes} (h1 : bcmp a b ≠ .gt) (h2 : bcmp b a ≠ .gt) : a = b := by
  rcases (bcmp_le_iff a b).mp h1 with h | h
  · exact absurd ((bcmp_swap a b).mp h) h2
  · exact h

theorem bcmp_nil_right (a : Bytes) : bcmp a [] ≠ .lt := by
  cases a <;> exact nofun

theorem bcmp_nil_le (k : Bytes) : bcmp [] k ≠ .gt := by cases k <;> simp [bcmp]

theorem bcmp_lex (a b : Bytes) : bcmp a b = .lt ↔ (a.map (·.toNat)) < (b.map (·.toNat)) := by
  induction a generalizing b with
  | nil => cases b <;> simp [bcmp]
  | cons x xs ih =>
    cases b with
    | nil => simp [bcmp]
    | cons y ys =>
      simp only [bcmp_cons_lt_iff, List.map_cons, List.cons_lt_cons_iff, ih, UInt8.lt_iff_toNat_lt,
        UInt8.toNat_inj]

/-! ### prefixes -/

theorem bcmp_append_left (p a b : Bytes) : bcmp (p ++ a) (p ++ b) = bcmp a b := by
  induction p with
  | nil => rfl
  | cons y ys ih => rw [List.cons_append, List.cons_append, bcmp_cons_same]; exact ih

theorem bcmp_append_le (p r : Bytes) : bcmp p (p ++ r) ≠ .gt := by
  have h := bcmp_append_left p [] r
  rw [List.append_nil] at h
  rw [h]
  cases r <;> exact nofun

theorem bcmp_append_lt (a : Bytes) (x : UInt8) (r : Bytes) : bcmp a (a ++ x :: r) = .lt := by
  have h := bcmp_append_left a [] (x :: r)
  rwa [List.append_nil] at h

theorem isPrefix_iff_append {p k : Bytes} : isPrefix p k = true ↔ ∃ r, k = p ++ r := by
  constructor
  · intro h
    simp only [isPrefix, Bool.and_eq_true, decide_eq_true_eq, beq_iff_eq] at h
    refine ⟨k.drop p.length, ?_⟩
    conv => lhs; rw [← List.take_append_drop p.length k, h.2]
  · rintro ⟨r, rfl⟩
    simp [isPrefix]

theorem bcmp_prefix {p k : Bytes} (h : isPrefix p k = true) : bcmp p k ≠ .gt := by
  obtain ⟨r, rfl⟩ := isPrefix_iff_append.mp h
  exact bcmp_append_le p r

theorem isPrefix_of_between (p : Bytes) {a : Bytes} (r : Bytes) :
    bcmp a p ≠ .lt → bcmp a (p ++ r) ≠ .gt → isPrefix p a = true := by
  induction p generalizing a with
  | nil => intro _ _; exact isPrefix_iff_append.mpr ⟨a, rfl⟩
  | cons x p ih =>
    cases a with
    | nil => intro h1; exact absurd rfl h1
    | cons y a =>
      intro h1 h2
      rw [Ne, bcmp_cons_lt_iff, not_or] at h1
      rw [List.cons_append, Ne, ← bcmp_swap, bcmp_cons_lt_iff, not_or] at h2
      have e : y = x := UInt8.le_antisymm (UInt8.not_lt.mp h2.1) (UInt8.not_lt.mp h1.1)
      subst e
      obtain ⟨s, hs⟩ := isPrefix_iff_append.mp
        (ih (fun h => h1.2 ⟨rfl, h⟩) (fun h => h2.2 ⟨rfl, (bcmp_swap _ _).mpr h⟩))
      exact isPrefix_iff_append.mpr ⟨s, by rw [hs, List.cons_append]⟩

theorem isPrefix_convex (p : Bytes) {a b d : Bytes} (ha : isPrefix p a = true) (hd : isPrefix p d = true)
    (hab : bcmp a b ≠ .gt) (hbd : bcmp b d ≠ .gt) : isPrefix p b = true := by
  obtain ⟨r, rfl⟩ := isPrefix_iff_append.mp hd
  exact isPrefix_of_between p r ((bcmp_not_lt_iff b p).mpr (bcmp_le_trans (bcmp_prefix ha) hab)) hbd

/-! ### the separator -/

theorem shortestSep_cons_same (a : UInt8) (as bs : Bytes) :
    shortestSep (a :: as) (a :: bs) = a :: shortestSep as bs := by
  have e1 : diffIndex (a :: as) (a :: bs) = diffIndex as bs + 1 := by
    rw [diffIndex, if_pos rfl, Nat.add_comm]
  have e2 : min (a :: as).length (a :: bs).length = min as.length bs.length + 1 :=
    Nat.succ_min_succ _ _
  unfold shortestSep
  simp only [e1, e2, List.getElem!_cons_succ, List.take_succ_cons, ge_iff_le,
    Nat.add_le_add_iff_right, Nat.add_lt_add_iff_right, Nat.add_right_comm _ 1 2,
    Nat.add_right_comm _ 1 1, List.cons_append, apply_ite (List.cons a)]

theorem shortestSep_cons_ne (a b : UInt8) (as bs : Bytes) (hab : a ≠ b) :
    shortestSep (a :: as) (b :: bs) =
      if a.toNat < 0xFF ∧ a.toNat + 1 < b.toNat then [(a.toNat + 1).toUInt8]
      else if 2 < min as.length bs.length + 1 then
        let us := a.toNat * 256 + (as[0]!).toNat
        let ul := b.toNat * 256 + (bs[0]!).toNat
        let ub := (us + 1) % 65536
        if us ≤ ub ∧ ub ≤ ul then [(ub / 256).toUInt8, (ub % 256).toUInt8] else a :: as
      else a :: as := by
  have e1 : diffIndex (a :: as) (b :: bs) = 0 := by rw [diffIndex, if_neg hab]
  have e2 : min (a :: as).length (b :: bs).length = min as.length bs.length + 1 :=
    Nat.succ_min_succ _ _
  unfold shortestSep
  simp only [e1, e2, ge_iff_le, Nat.le_zero_eq, Nat.add_one_ne_zero, if_false, List.take_zero,
    List.nil_append, List.getElem!_cons_zero, List.getElem!_cons_succ, Nat.zero_add]

theorem bcmp_two (x1 x2 y1 y2 : UInt8) (r r' : Bytes) :
    bcmp (x1 :: x2 :: r) (y1 :: y2 :: r') =
      if x1.toNat * 256 + x2.toNat < y1.toNat * 256 + y2.toNat then .lt
      else if y1.toNat * 256 + y2.toNat < x1.toNat * 256 + x2.toNat then .gt
      else bcmp r r' := by
  have hx := x2.toNat_lt
  have hy := y2.toNat_lt
  rw [bcmp_cons_cons, bcmp_cons_cons]
  simp only [UInt8.lt_iff_toNat_lt]
  rcases Nat.lt_trichotomy x1.toNat y1.toNat with h | h | h
  · rw [if_pos h, if_pos (by omega)]
  · rw [if_neg (by omega), if_neg (by omega)]
    rcases Nat.lt_trichotomy x2.toNat y2.toNat with h2 | h2 | h2
    · rw [if_pos h2, if_pos (by omega)]
    · rw [if_neg (by omega), if_neg (by omega), if_neg (by omega), if_neg (by omega)]
    · rw [if_neg (by omega), if_pos h2, if_neg (by omega), if_pos (by omega)]
  · rw [if_neg (by omega), if_pos h, if_neg (by omega), if_pos (by omega)]

private theorem toNat_hi_lo {n : Nat} (h : n < 65536) :
    (n / 256).toUInt8.toNat * 256 + (n % 256).toUInt8.toNat = n := by
  rw [UInt8.toNat_ofNat_of_lt' (show n / 256 < 256 by omega),
    UInt8.toNat_ofNat_of_lt' (show n % 256 < 256 by omega)]
  omega

theorem sep_spec {start limit : Bytes} (h : bcmp start limit = .lt) :
    bcmp start (shortestSep start limit) ≠ .gt ∧ bcmp (shortestSep start limit) limit = .lt := by
  -- the "give up" exits return `start` itself
  have keep : ∀ s l : Bytes, bcmp s l = .lt → bcmp s s ≠ .gt ∧ bcmp s l = .lt :=
    fun s _ hs => ⟨by rw [bcmp_refl]; exact nofun, hs⟩
  induction start generalizing limit with
  | nil => exact keep _ _ h
  | cons a as ih =>
    cases limit with
    | nil => cases h
    | cons b bs =>
      by_cases hab : a = b
      · subst hab
        rw [shortestSep_cons_same, bcmp_cons_same, bcmp_cons_same]
        rw [bcmp_cons_same] at h
        exact ih h
      · have hlt : a.toNat < b.toNat :=
          UInt8.lt_iff_toNat_lt.mp ((bcmp_cons_lt_iff.mp h).resolve_right fun e => hab e.1)
        have first : ∀ {x y : UInt8} (xs ys : Bytes), x.toNat < y.toNat → bcmp (x :: xs) (y :: ys) = .lt :=
          fun _ _ hxy => bcmp_cons_lt_iff.mpr (.inl (UInt8.lt_iff_toNat_lt.mpr hxy))
        rw [shortestSep_cons_ne a b as bs hab]
        by_cases hc : a.toNat < 0xFF ∧ a.toNat + 1 < b.toNat
        · have e : (a.toNat + 1).toUInt8.toNat = a.toNat + 1 :=
            UInt8.toNat_ofNat_of_lt' (show a.toNat + 1 < 256 by omega)
          rw [if_pos hc]
          exact ⟨by rw [first _ _ (by omega)]; exact nofun, first _ _ (by omega)⟩
        · rw [if_neg hc]
          by_cases hm : 2 < min as.length bs.length + 1
          · -- 16-bit increment: `us ≤ ub` says that it did not wrap around
            rw [if_pos hm]
            match as, bs, hm with
            | a2 :: as', b2 :: c :: bs', _ =>
              simp only [List.getElem!_cons_zero]
              by_cases hu : a.toNat * 256 + a2.toNat ≤ (a.toNat * 256 + a2.toNat + 1) % 65536 ∧
                  (a.toNat * 256 + a2.toNat + 1) % 65536 ≤ b.toNat * 256 + b2.toNat
              · have hs : a.toNat * 256 + a2.toNat < (a.toNat * 256 + a2.toNat + 1) % 65536 := by omega
                rw [if_pos hu, bcmp_two, bcmp_two, toNat_hi_lo (Nat.mod_lt _ (by decide)), if_pos hs]
                refine ⟨nofun, ?_⟩
                by_cases hul : (a.toNat * 256 + a2.toNat + 1) % 65536 < b.toNat * 256 + b2.toNat
                · rw [if_pos hul]
                · rw [if_neg hul, if_neg (Nat.not_lt.mpr hu.2)]; rfl
              · rw [if_neg hu]; exact keep _ _ h
            | _ :: _, [_], hm => simp at hm
            | _ :: _, [], hm => simp at hm
            | [], _, hm => simp at hm
          · rw [if_neg hm]; exact keep _ _ h

theorem sepAssertOk_of_lt {start limit : Bytes} (h : bcmp start limit = .lt) :
    sepAssertOk start limit = true := by
  unfold sepAssertOk
  simp only
  split
  · rfl
  · simp [blt, (sep_spec h).2]

theorem sep_length_le (start limit : Bytes) : (shortestSep start limit).length ≤ start.length := by
  induction start generalizing limit with
  | nil => exact Nat.le_refl _
  | cons a as ih =>
    cases limit with
    | nil => exact Nat.le_refl _
    | cons b bs =>
      by_cases hab : a = b
      · subst hab
        rw [shortestSep_cons_same]
        exact Nat.succ_le_succ (ih bs)
      · rw [shortestSep_cons_ne a b as bs hab]
        by_cases hc : a.toNat < 0xFF ∧ a.toNat + 1 < b.toNat
        · rw [if_pos hc]; exact Nat.succ_le_succ (Nat.zero_le _)
        · rw [if_neg hc]
          by_cases hm : 2 < min as.length bs.length + 1
          · rw [if_pos hm]
            simp only
            split
            · show 2 ≤ as.length + 1; omega
            · exact Nat.le_refl _
          · rw [if_neg hm]; exact Nat.le_refl _

/-! ### `lowerBound` -/

theorem lowerBound_nil (k : Bytes) : lowerBound [] k = 0 := rfl

theorem lowerBound_cons (e : Entry) (es : List Entry) (k : Bytes) :
    lowerBound (e :: es) k = if bcmp e.key k = .lt then lowerBound es k + 1 else 0 := by
  unfold lowerBound
  rw [List.takeWhile_cons]
  by_cases h : bcmp e.key k = .lt <;> simp [h]

theorem lowerBound_le (es : List Entry) (k : Bytes) : lowerBound es k ≤ es.length := by
  induction es with
  | nil => simp [lowerBound_nil]
  | cons e es ih => rw [lowerBound_cons]; split <;> simp only [List.length_cons] <;> omega

theorem lowerBound_lt_key (es : List Entry) (k : Bytes) (i : Nat) (e : Entry)
    (hi : i < lowerBound es k) (he : es[i]? = some e) : bcmp e.key k = .lt := by
  induction es generalizing i with
  | nil => simp [lowerBound_nil] at hi
  | cons x xs ih =>
    rw [lowerBound_cons] at hi
    split at hi
    · next hx =>
      cases i with
      | zero => simp only [List.getElem?_cons_zero, Option.some.injEq] at he; subst he; exact hx
      | succ j => rw [List.getElem?_cons_succ] at he; exact ih j (by omega) he
    · omega

theorem lowerBound_not_lt (es : List Entry) (k : Bytes) (e : Entry)
    (he : es[lowerBound es k]? = some e) : bcmp e.key k ≠ .lt := by
  induction es with
  | nil => cases he
  | cons x xs ih =>
    rw [lowerBound_cons] at he
    split at he
    · exact ih he
    · next hx => cases he; exact hx

/-- `lowerBound` is a `takeWhile`: the first position whose key is not `< k`, sorted or not -/
theorem lowerBound_eq_iff (es : List Entry) (k : Bytes) (n : Nat) :
    lowerBound es k = n ↔ n ≤ es.length ∧ (∀ i e, i < n → es[i]? = some e → bcmp e.key k = .lt) ∧
      (∀ e, es[n]? = some e → bcmp e.key k ≠ .lt) := by
  constructor
  · rintro rfl
    exact ⟨lowerBound_le es k, fun i e => lowerBound_lt_key es k i e, lowerBound_not_lt es k⟩
  · rintro ⟨hn, hlo, hhi⟩
    have hle := lowerBound_le es k
    rcases Nat.lt_trichotomy (lowerBound es k) n with h | h | h
    · have hl : lowerBound es k < es.length := by omega
      exact absurd (hlo _ _ h (List.getElem?_eq_getElem hl)) (lowerBound_not_lt es k _ (List.getElem?_eq_getElem hl))
    · exact h
    · have hn' : n < es.length := by omega
      exact absurd (lowerBound_lt_key es k n _ h (List.getElem?_eq_getElem hn')) (hhi _ (List.getElem?_eq_getElem hn'))

theorem Sorted_cons {e : Entry} {es : List Entry} :
    Sorted (e :: es) ↔ (∀ e' ∈ es, bcmp e.key e'.key ≠ .gt) ∧ Sorted es := by
  unfold Sorted; exact List.pairwise_cons

theorem StrictSorted_cons {e : Entry} {es : List Entry} :
    StrictSorted (e :: es) ↔ (∀ e' ∈ es, bcmp e.key e'.key = .lt) ∧ StrictSorted es := by
  unfold StrictSorted; exact List.pairwise_cons

theorem StrictSorted.sorted {es : List Entry} (h : StrictSorted es) : Sorted es := by
  unfold StrictSorted at h; unfold Sorted
  exact h.imp (fun h => by rw [h]; simp)

theorem pairwise_of_adjacent {α : Type} (R : α → α → Prop) (htr : ∀ a b c, R a b → R b c → R a c) :
    ∀ (l : List α), (∀ i (h : i + 1 < l.length), R l[i] l[i+1]) → l.Pairwise R
  | [], _ => List.Pairwise.nil
  | a :: t, h => by
    have ht : ∀ i (h' : i + 1 < t.length), R t[i] t[i+1] := by
      intro i h'
      have := h (i + 1) (by simp only [List.length_cons]; omega)
      simpa using this
    rw [List.pairwise_cons]
    refine ⟨?_, pairwise_of_adjacent R htr t ht⟩
    intro b hb
    obtain ⟨j, hj, rfl⟩ := List.mem_iff_getElem.mp hb
    induction j with
    | zero =>
      have := h 0 (by simp only [List.length_cons]; omega)
      simpa using this
    | succ j ih =>
      exact htr _ _ _ (ih (by omega) (List.getElem_mem _)) (ht j hj)

theorem sorted_flatten (L : List (List Entry)) (hs : ∀ l ∈ L, StrictSorted l)
    (hadj : ∀ i (h : i + 1 < L.length), L[i + 1] ≠ [] ∧ ∀ x ∈ L[i], ∀ y ∈ L[i + 1], bcmp x.key y.key = .lt) :
    StrictSorted L.flatten := by
  refine List.pairwise_flatten.mpr ⟨hs, (pairwise_of_adjacent
    (fun l₁ l₂ : List Entry => l₂ ≠ [] ∧ ∀ x ∈ l₁, ∀ y ∈ l₂, bcmp x.key y.key = .lt) ?_ L hadj).imp And.right⟩
  intro a b c hab hbc
  obtain ⟨y, hy⟩ := List.exists_mem_of_ne_nil _ hab.1
  exact ⟨hbc.1, fun x hx z hz => bcmp_lt_trans (hab.2 x hx y hy) (hbc.2 y hy z hz)⟩

theorem sorted_le_last (l : List Entry) (hs : StrictSorted l) (last : Entry) (h : l.getLast? = some last) :
    ∀ e ∈ l, bcmp e.key last.key ≠ .gt := by
  obtain ⟨ys, rfl⟩ := List.getLast?_eq_some_iff.mp h
  unfold StrictSorted at hs
  rw [List.pairwise_append] at hs
  intro e he
  rw [List.mem_append, List.mem_singleton] at he
  rcases he with he | rfl
  · rw [hs.2.2 e he last (List.mem_singleton.mpr rfl)]; decide
  · rw [bcmp_refl]; decide

theorem sorted_ge_first (l : List Entry) (hs : StrictSorted l) (fst : Entry) (h : l.head? = some fst) :
    ∀ e ∈ l, bcmp fst.key e.key ≠ .gt := by
  cases l with
  | nil => simp at h
  | cons a tl =>
    simp only [List.head?_cons, Option.some.injEq] at h
    subst h
    unfold StrictSorted at hs
    rw [List.pairwise_cons] at hs
    intro e he
    rw [List.mem_cons] at he
    rcases he with rfl | he
    · rw [bcmp_refl]; decide
    · rw [hs.1 e he]; decide

theorem StrictSorted.getElem?_lt {es : List Entry} (hs : StrictSorted es) {i j : Nat} {e e' : Entry}
    (h : i < j) (he : es[i]? = some e) (he' : es[j]? = some e') : bcmp e.key e'.key = .lt := by
  obtain ⟨hi, rfl⟩ := List.getElem?_eq_some_iff.mp he
  obtain ⟨hj, rfl⟩ := List.getElem?_eq_some_iff.mp he'
  exact (List.pairwise_iff_getElem.mp hs) i j hi hj h

theorem StrictSorted.getElem?_le {es : List Entry} (hs : StrictSorted es) {i j : Nat} {e e' : Entry}
    (h : i ≤ j) (he : es[i]? = some e) (he' : es[j]? = some e') : bcmp e.key e'.key ≠ .gt := by
  rcases Nat.lt_or_eq_of_le h with h | rfl
  · rw [hs.getElem?_lt h he he']; exact nofun
  · rw [he] at he'; cases he'
    rw [bcmp_refl]; exact nofun

/-- `lowerBound_ge_key` is the same fact with `k ≤ key` for `¬ key < k` -/
theorem lowerBound_ge_key' (es : List Entry) (hs : Sorted es) (k : Bytes) (i : Nat) (e : Entry)
    (hi : lowerBound es k ≤ i) (he : es[i]? = some e) : bcmp e.key k ≠ .lt := by
  induction es generalizing i with
  | nil => simp at he
  | cons x xs ih =>
    obtain ⟨hx, hxs⟩ := Sorted_cons.mp hs
    rw [lowerBound_cons] at hi
    split at hi
    · cases i with
      | zero => omega
      | succ j => rw [List.getElem?_cons_succ] at he; exact ih hxs j (by omega) he
    · next hn =>
      cases i with
      | zero => simp only [List.getElem?_cons_zero, Option.some.injEq] at he; subst he; exact hn
      | succ j =>
        rw [List.getElem?_cons_succ] at he
        intro hlt
        exact hn (bcmp_le_lt_trans (hx e (List.mem_of_getElem? he)) hlt)

theorem lowerBound_ge_key (es : List Entry) (hs : Sorted es) (k : Bytes) (i : Nat) (e : Entry)
    (hi : lowerBound es k ≤ i) (he : es[i]? = some e) : bcmp k e.key ≠ .gt :=
  (bcmp_not_lt_iff e.key k).mp (lowerBound_ge_key' es hs k i e hi he)

theorem lowerBound_lt_key_getElem (es : List Entry) (k : Bytes) (i : Nat) (hi : i < lowerBound es k) :
    bcmp (es[i]'(Nat.lt_of_lt_of_le hi (lowerBound_le es k))).key k = .lt :=
  lowerBound_lt_key es k i _ hi (List.getElem?_eq_getElem _)

theorem lowerBound_ge_key_getElem (es : List Entry) (hs : Sorted es) (k : Bytes) (i : Nat)
    (hi : lowerBound es k ≤ i) (hlt : i < es.length) : bcmp k es[i].key ≠ .gt :=
  lowerBound_ge_key es hs k i _ hi (List.getElem?_eq_getElem _)

theorem lowerBound_empty_key (es : List Entry) : lowerBound es [] = 0 := by
  cases es with
  | nil => rfl
  | cons e es => rw [lowerBound_cons, if_neg (bcmp_nil_right _)]

theorem lowerBound_of_getElem? {K : List Entry} (hK : StrictSorted K) {j : Nat} {e : Entry}
    (he : K[j]? = some e) : lowerBound K e.key = j :=
  (lowerBound_eq_iff K e.key j).mpr ⟨Nat.le_of_lt (List.getElem?_eq_some_iff.mp he).1,
    fun _ _ hi hx => hK.getElem?_lt hi hx he, fun x hx => by rw [he] at hx; cases hx; simp [bcmp_refl]⟩

theorem lowerBound_of_mem {K : List Entry} (hK : StrictSorted K) {e : Entry} (he : e ∈ K) :
    K[lowerBound K e.key]? = some e := by
  obtain ⟨j, hj, hje⟩ := List.mem_iff_getElem.mp he
  have h1 : K[j]? = some e := List.getElem?_eq_some_iff.mpr ⟨hj, hje⟩
  rw [lowerBound_of_getElem? hK h1]; exact h1

theorem lt_lowerBound_iff {K : List Entry} (hK : StrictSorted K) {pos : Nat} {e0 : Entry}
    (h0 : K[pos]? = some e0) (key : Bytes) :
    pos < lowerBound K key ↔ bcmp e0.key key = .lt :=
  ⟨fun h => lowerBound_lt_key K key pos e0 h h0,
   fun h => Nat.lt_of_not_le fun hle => lowerBound_ge_key' K hK.sorted key pos e0 hle h0 h⟩

theorem lt_of_mem_take_lowerBound {es : List Entry} {k : Bytes} {e : Entry}
    (he : e ∈ es.take (lowerBound es k)) : bcmp e.key k = .lt := by
  obtain ⟨i, hi, rfl⟩ := List.mem_take_iff_getElem.mp he
  exact lowerBound_lt_key es k i _ (by omega) (List.getElem?_eq_getElem _)

theorem not_lt_of_mem_drop_lowerBound {es : List Entry} (hs : Sorted es) {k : Bytes} {e : Entry}
    (he : e ∈ es.drop (lowerBound es k)) : bcmp e.key k ≠ .lt := by
  obtain ⟨i, hi, rfl⟩ := List.mem_drop_iff_getElem.mp he
  exact lowerBound_ge_key' es hs k _ _ (Nat.le_add_right _ _) (List.getElem?_eq_getElem _)

end Mtbl
