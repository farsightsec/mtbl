import MtblModel.Tools
import MtblProofs.ReaderIterProofs
import MtblProofs.CompressProofs
/-
  mtbl_dump / mtbl_info as functions of what the reader returns: the loop sees exactly the table's entries, the filters
  select exactly the matching subsequence, and the -x format is injective (what is printed determines the entries).
-/
namespace Mtbl.Tools
open Mtbl

theorem takeUntilFail_map_some (F : List Entry) (rest : List (Option Entry)) :
    takeUntilFail (F.map some ++ none :: rest) = F := by
  induction F with
  | nil => rfl
  | cons e es ih => simp only [List.map_cons, List.cons_append, takeUntilFail, ih]

/-- the `while (mtbl_iter_next(…))` loop over an iterator that returns `F` and then fails sees exactly `F` -/
theorem takeUntilFail_drainOut (F : List Entry) {m : Nat} (h : F.length < m) :
    takeUntilFail (RI.drainOut F m) = F := by
  rw [RI.drainOut_full F (by omega)]
  obtain ⟨k, hk⟩ : ∃ k, m - F.length = k + 1 := ⟨m - F.length - 1, by omega⟩
  rw [hk, List.replicate_succ]
  exact takeUntilFail_map_some F _

theorem dumpOfRun_drainOut (o : DumpOpts) (F : List Entry) {m : Nat} (h : F.length < m) :
    dumpOfRun o (RI.drainOut F m) = dumpSpec o F := by
  unfold dumpOfRun dumpSpec
  rw [takeUntilFail_drainOut F h]

theorem hasPrefix_iff (p : Option Bytes) (b : Bytes) :
    hasPrefix p b = true ↔ ∀ q, p = some q → q <+: b := by
  cases p with
  | none => simp [hasPrefix]
  | some q =>
    simp only [hasPrefix, Bool.and_eq_true, decide_eq_true_eq, beq_iff_eq, Option.some.injEq, forall_eq']
    constructor
    · rintro ⟨_, h2⟩
      refine ⟨b.drop q.length, ?_⟩
      have := List.take_append_drop q.length b
      rw [h2] at this
      exact this
    · rintro ⟨t, rfl⟩
      simp

theorem dumpPred_iff (o : DumpOpts) (e : Entry) :
    dumpPred o e = true ↔ (∀ q, o.kpre = some q → q <+: e.key) ∧ (∀ q, o.vpre = some q → q <+: e.val) ∧
      o.kmin ≤ e.key.length ∧ o.vmin ≤ e.val.length := by
  simp only [dumpPred, Bool.and_eq_true, hasPrefix_iff, decide_eq_true_eq, and_assoc]

/-- no options: everything is printed -/
theorem dumpSpec_default (es : List Entry) (hex : Bool) :
    dumpSpec { hex } es = es.map (dumpLine { hex }) := by
  have : ∀ e : Entry, dumpPred { hex } e = true := fun e => by simp [dumpPred, hasPrefix]
  simp [dumpSpec, List.filter_eq_self.mpr (fun e _ => this e)]

/-- the printed lines are those of a subsequence of the entries, in the same order, one line per entry -/
theorem dumpSpec_sublist (o : DumpOpts) (es : List Entry) (hs : o.silent = false) :
    ∃ sub : List Entry, List.Sublist sub es ∧ dumpSpec o es = sub.map (dumpLine o) ∧
      ∀ e, e ∈ sub ↔ e ∈ es ∧ dumpPred o e = true := by
  refine ⟨es.filter (dumpPred o), List.filter_sublist, by simp [dumpSpec, hs], fun e => by simp [List.mem_filter]⟩

/-! ### the integer lines of mtbl_info are the trailer fields -/
theorem infoLines_values (size : Nat) (m : Meta) :
    (infoLines size m).map (·.2) = [size, m.indexBlockOffset, m.bytesIndexBlock, m.bytesDataBlocks, m.dataBlockSize,
      m.countDataBlocks, m.countEntries, m.bytesKeys, m.bytesValues] := rfl

theorem infoAlgo_named (m : Meta) (h : m.compression < 6) :
    ∃ s, infoAlgo m = s ∧ Cz.typeFromStr s = some m.compression := by
  obtain ⟨s, h1, h2⟩ := Cz.names_roundtrip m.compression h
  exact ⟨s, by simp [infoAlgo, h1], h2⟩

end Mtbl.Tools
