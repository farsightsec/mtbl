import MtblModel.Writer
import MtblModel.Format
import MtblProofs.BlockEncProofs
import MtblProofs.GateProofs
import MtblProofs.OrderProofs
import MtblProofs.VarintProofs
/-
  Theorem W: the writer refines the format (C09, C10; with the reader theorems, C01).

  For every configuration and every strictly increasing entry list, the bytes written by the model of
  mtbl/writer.c are exactly the output of the independent encoder (MtblModel/Format.lean) for one particular
  LEGAL choice of blocks / restarts / sharing / separators (`canonFile`); the choices obey the writer's cadence
  and size rules; the trailer fields equal their recount.  A total compressor `comp` is written
  `hc : cfg.comp = fun raw => some (comp raw)` throughout.
-/
namespace Mtbl

/-! ### the canonical choices -/

/-- key of the last entry of a block (`[]` for the empty block) -/
def lastKeyOf (b : List Entry) : Bytes := match b.getLast? with | some e => e.key | none => []

/-- key of the first entry of a block (`[]` for the empty block) -/
def firstKeyOf (b : List Entry) : Bytes := match b.head? with | some e => e.key | none => []

/-- the fresh block builder of a writer with configuration `cfg` -/
def bb0 (cfg : WCfg) : BB := { interval := cfg.interval, thr := cfg.thr }

/-- the block-cut test of `mtbl_writer_add`, on the entries `cur` of the block under construction:
    `block_builder_current_size_estimate(data) + 15 + len_key + len_val >= opt.block_size` -/
def cutTest (cfg : WCfg) (cur : List Entry) (e : Entry) : Prop :=
  BB.estimate (BB.addAll (bb0 cfg) cur) + 15 + e.key.length + e.val.length ≥ cfg.effBlockSize

instance (cfg : WCfg) (cur : List Entry) (e : Entry) : Decidable (cutTest cfg cur e) := by
  unfold cutTest; infer_instance

/-- split the accepted entries into data blocks exactly as mtbl_writer_add does: an entry starts a new block when
    the current block is non-empty and `estimate(current block) + 15 + |k| + |v| ≥ effBlockSize`.
    (`cur` = the entries of the block under construction.) -/
def splitBlocks (cfg : WCfg) : (cur : List Entry) → List Entry → List (List Entry)
  | cur, [] => if cur = [] then [] else [cur]
  | cur, e :: es =>
    if cur ≠ [] ∧ cutTest cfg cur e then cur :: splitBlocks cfg [e] es
    else splitBlocks cfg (cur ++ [e]) es

/-- the index keys: `bytes_shortest_separator(last key of block j, first key of block j+1)`, and the last key
    itself for the final block -/
def canonSeps : List (List Entry) → List Bytes
  | [] => []
  | [b] => [lastKeyOf b]
  | b :: b' :: rest => shortestSep (lastKeyOf b) (firstKeyOf b') :: canonSeps (b' :: rest)

/-- the choices mtbl/writer.c makes -/
def canonFile (cfg : WCfg) (pre : Bytes) (es : List Entry) : EFile :=
  { version := .v2, pre := pre,
    blocks := (splitBlocks cfg [] es).map (canonBlock cfg.interval),
    seps := canonSeps (splitBlocks cfg [] es),
    indexShared := (canonItems cfg.interval 0 []
                      ((canonSeps (splitBlocks cfg [] es)).map fun k => ({ key := k, val := [] } : Entry))).map (·.shared),
    indexRestarts := canonRestarts cfg.interval (splitBlocks cfg [] es).length,
    compression := cfg.compression, blockSizeField := cfg.effBlockSize, thr := cfg.thr }

/-- the trailer as the independent encoder recounts it from the choices `f` -/
def EFile.recount (f : EFile) (comp : Bytes → Bytes) : Meta :=
  { indexBlockOffset := f.pre.length + ((f.dataFrames comp).flatMap id).length,
    dataBlockSize := f.blockSizeField, compression := f.compression,
    countEntries := f.entries.length, countDataBlocks := f.blocks.length,
    bytesDataBlocks := ((f.dataFrames comp).flatMap id).length,
    bytesIndexBlock := (eframe f.version ((f.indexBlock comp).encode f.thr)).length,
    bytesKeys := (f.entries.map (·.key.length)).sum, bytesValues := (f.entries.map (·.val.length)).sum }

/-- `EFile.recount` is literally the trailer `EFile.encode` writes -/
theorem EFile.encode_trailer (f : EFile) (comp : Bytes → Bytes) :
    f.encode comp = f.pre ++ (f.dataFrames comp).flatMap id ++ eframe f.version ((f.indexBlock comp).encode f.thr) ++
      ((f.recount comp).fields.flatMap fixed64 ++
        List.replicate (METADATA_SIZE - ((f.recount comp).fields.flatMap fixed64).length - 4) (0 : UInt8) ++
        fixed32 (match f.version with | .v1 => MAGIC_V1 | .v2 => MAGIC_V2)) := rfl

namespace WriterP

open BlockEnc

/-! ### the block builder -/

theorem ite_ne_nil {c : Prop} [Decidable c] {a b : Bytes} (ha : a ≠ []) (hb : b ≠ []) :
    (if c then a else b) ≠ [] := by
  split <;> assumption

theorem venc32_ne_nil (v : Nat) : venc32 v ≠ [] :=
  ite_ne_nil (List.cons_ne_nil _ _) <| ite_ne_nil (List.cons_ne_nil _ _) <| ite_ne_nil (List.cons_ne_nil _ _) <|
    ite_ne_nil (List.cons_ne_nil _ _) (List.cons_ne_nil _ _)

theorem encEntry_ne_nil (sh : Nat) (e : Entry) : encEntry sh e ≠ [] := by
  unfold encEntry venc32t
  have := venc32_ne_nil (sh % 4294967296)
  cases h : venc32 (sh % 4294967296) with
  | nil => exact absurd h this
  | cons a t => simp

theorem bb0_addAll_nil (cfg : WCfg) : BB.addAll (bb0 cfg) [] = bb0 cfg := rfl

theorem addAll_snoc (b : BB) (cur : List Entry) (e : Entry) :
    (BB.addAll b cur).add e = BB.addAll b (cur ++ [e]) := by
  simp [BB.addAll, List.foldl_append]

theorem addAll_append (b : BB) (l1 l2 : List Entry) :
    BB.addAll b (l1 ++ l2) = BB.addAll (BB.addAll b l1) l2 := by
  simp [BB.addAll, List.foldl_append]

theorem addAll_bb0_thr (cfg : WCfg) (B : List Entry) : (BB.addAll (bb0 cfg) B).thr = cfg.thr :=
  (addAll_fresh cfg.interval cfg.thr B).2.1

theorem addAll_bb0_buf (cfg : WCfg) (B : List Entry) :
    (BB.addAll (bb0 cfg) B).buf = (canonBlock cfg.interval B).region :=
  (addAll_fresh cfg.interval cfg.thr B).2.2.1

theorem addAll_bb0_restarts_length (cfg : WCfg) (B : List Entry) :
    (BB.addAll (bb0 cfg) B).restarts.length = (canonBlock cfg.interval B).restarts.length := by
  show (BB.addAll { interval := cfg.interval, thr := cfg.thr } B).restarts.length = _
  rw [(addAll_fresh cfg.interval cfg.thr B).2.2.2, List.length_map]

theorem addAll_reset (cfg : WCfg) (cur : List Entry) : (BB.addAll (bb0 cfg) cur).reset = bb0 cfg := by
  have h := addAll_fresh cfg.interval cfg.thr cur
  unfold BB.reset bb0
  rw [h.1, h.2.1]

theorem addAll_finish (cfg : WCfg) (cur : List Entry) :
    (BB.addAll (bb0 cfg) cur).finish = (canonBlock cfg.interval cur).encode cfg.thr :=
  BB_finish_eq cfg.interval cfg.thr cur

theorem addAll_empty (cfg : WCfg) (cur : List Entry) :
    (BB.addAll (bb0 cfg) cur).empty = true ↔ cur = [] := by
  unfold BB.empty
  rw [addAll_bb0_buf, region_eq]
  cases cur with
  | nil => simp [canonBlock, canonItems_nil]
  | cons e t =>
    have := List.length_pos_iff.mpr (encEntry_ne_nil (if 0 < cfg.interval then lcp [] e.key else 0) e)
    show (((canonItems cfg.interval 0 [] (e :: t)).flatMap encIt).length == 0) = true ↔ _
    rw [canonItems_cons, List.flatMap_cons, List.length_append]
    simp only [encIt, beq_iff_eq, reduceCtorEq, iff_false]
    omega

/-! ### one step of the writer -/

/-- what is stored for a raw block: the block itself, or its compressed form -/
def stored (cfg : WCfg) (comp : Bytes → Bytes) (raw : Bytes) : Bytes :=
  if cfg.compression = 0 then raw else comp raw

/-- the frame the writer emits for the data block holding the entries `B` -/
def blockFrame (cfg : WCfg) (comp : Bytes → Bytes) (B : List Entry) : Bytes :=
  frame (stored cfg comp ((canonBlock cfg.interval B).encode cfg.thr))

def addEntryStats (m : Meta) (e : Entry) : Meta :=
  { m with countEntries := m.countEntries + 1, bytesKeys := m.bytesKeys + e.key.length,
           bytesValues := m.bytesValues + e.val.length }

def addBlockStats (m : Meta) (n : Nat) : Meta :=
  { m with bytesDataBlocks := m.bytesDataBlocks + n, countDataBlocks := m.countDataBlocks + 1 }

theorem addAll_nonempty (cfg : WCfg) {cur : List Entry} (h : cur ≠ []) :
    (BB.addAll (bb0 cfg) cur).empty = false := by
  cases h' : (BB.addAll (bb0 cfg) cur).empty with
  | false => rfl
  | true => exact absurd ((addAll_empty cfg cur).mp h') h

/-- flushing a writer (total compressor) whose data block holds the entries `cur ≠ []`: the block's frame is
    written and indexed under the writer's current key -/
theorem flush_block {cfg : WCfg} {comp : Bytes → Bytes} (hc : cfg.comp = fun raw => some (comp raw)) (w : W)
    {cur : List Entry} (hcfg : w.cfg = cfg) (hdata : w.data = BB.addAll (bb0 cfg) cur) (hne : cur ≠ []) :
    w.flush = { w with data := bb0 cfg, out := w.out ++ blockFrame cfg comp cur, lastOffset := w.pendingOffset,
                       pendingOffset := w.pendingOffset + (blockFrame cfg comp cur).length,
                       m := addBlockStats w.m (blockFrame cfg comp cur).length,
                       index := w.index.add { key := w.lastKey, val := venc w.pendingOffset } } := by
  have hs : (if w.cfg.compression = 0 then some w.data.finish else w.cfg.comp w.data.finish) =
      some (stored cfg comp ((canonBlock cfg.interval cur).encode cfg.thr)) := by
    rw [hcfg, hdata, addAll_finish, hc]
    unfold stored
    split <;> rfl
  rw [Gate.flush_of_nonempty w (by rw [hdata]; exact addAll_nonempty cfg hne), hs, hdata, addAll_reset]
  rfl

/-- the writer state as far as the proof cares: configuration, current block = `cur`, last key, gate counter -/
structure WInv (cfg : WCfg) (w : W) (cur : List Entry) : Prop where
  cfg_eq : w.cfg = cfg
  data_eq : w.data = BB.addAll (bb0 cfg) cur
  last_eq : cur ≠ [] → w.lastKey = lastKeyOf cur
  cnt_eq : cur = [] → w.m.countEntries = 0

theorem lastKeyOf_snoc (cur : List Entry) (e : Entry) : lastKeyOf (cur ++ [e]) = e.key := by
  simp [lastKeyOf]

theorem lastKeyOf_single (e : Entry) : lastKeyOf [e] = e.key := rfl

theorem gate_pass {cfg : WCfg} {w : W} {cur : List Entry} (hs : WInv cfg w cur) (e : Entry)
    (hlt : cur ≠ [] → bcmp (lastKeyOf cur) e.key = .lt) :
    ¬ (w.m.countEntries > 0 ∧ (bcmp e.key w.lastKey != .gt) = true) := by
  rintro ⟨h1, h2⟩
  by_cases hc : cur = []
  · have := hs.cnt_eq hc; omega
  · have h3 := hlt hc
    rw [← hs.last_eq hc] at h3
    have := (bcmp_swap _ _).mp h3
    simp [this] at h2

theorem add_cut {cfg : WCfg} {comp : Bytes → Bytes} (hc : cfg.comp = fun raw => some (comp raw))
    {w : W} {cur : List Entry} (hs : WInv cfg w cur) (e : Entry)
    (hlt : cur ≠ [] → bcmp (lastKeyOf cur) e.key = .lt) (hne : cur ≠ []) (hcut : cutTest cfg cur e) :
    WInv cfg (w.add e.key e.val).2 [e] ∧
    (w.add e.key e.val).2.out = w.out ++ blockFrame cfg comp cur ∧
    (w.add e.key e.val).2.index =
      w.index.add { key := shortestSep (lastKeyOf cur) e.key, val := venc w.pendingOffset } ∧
    (w.add e.key e.val).2.pendingOffset = w.pendingOffset + (blockFrame cfg comp cur).length ∧
    (w.add e.key e.val).2.m = addEntryStats (addBlockStats w.m (blockFrame cfg comp cur).length) e := by
  have hfl := flush_block hc
    ({ w with lastKey := shortestSep w.lastKey e.key, aborted := w.aborted || !sepAssertOk w.lastKey e.key } : W)
    hs.cfg_eq hs.data_eq hne
  rw [Gate.add_eq, if_neg (gate_pass hs e hlt)]
  unfold Gate.cut
  rw [if_pos (by rw [hs.data_eq, hs.cfg_eq]; exact hcut), hfl]
  refine ⟨⟨hs.cfg_eq, rfl, fun _ => rfl, fun h => by cases h⟩, rfl, ?_, rfl, rfl⟩
  show w.index.add { key := shortestSep w.lastKey e.key, val := venc w.pendingOffset } = _
  rw [hs.last_eq hne]

theorem add_nocut {cfg : WCfg} {w : W} {cur : List Entry} (hs : WInv cfg w cur) (e : Entry)
    (hlt : cur ≠ [] → bcmp (lastKeyOf cur) e.key = .lt) (hno : ¬ (cur ≠ [] ∧ cutTest cfg cur e)) :
    WInv cfg (w.add e.key e.val).2 (cur ++ [e]) ∧
    (w.add e.key e.val).2.out = w.out ∧
    (w.add e.key e.val).2.index = w.index ∧
    (w.add e.key e.val).2.pendingOffset = w.pendingOffset ∧
    (w.add e.key e.val).2.m = addEntryStats w.m e := by
  have hcutw : ∃ lk ab, Gate.cut w e.key e.val = ({ w with lastKey := lk, aborted := ab } : W) := by
    unfold Gate.cut
    split
    · next hge =>
      refine ⟨_, _, Gate.flush_of_empty _ ?_⟩
      show w.data.empty = true
      rw [hs.data_eq, addAll_empty]
      false_or_by_contra
      next hne =>
      apply hno
      refine ⟨hne, ?_⟩
      rw [hs.data_eq, hs.cfg_eq] at hge; exact hge
    · exact ⟨w.lastKey, w.aborted, rfl⟩
  obtain ⟨lk, ab, hcutw⟩ := hcutw
  rw [Gate.add_eq, if_neg (gate_pass hs e hlt), hcutw]
  refine ⟨⟨hs.cfg_eq, ?_, fun _ => (lastKeyOf_snoc cur e).symm, fun h => by simp at h⟩, rfl, rfl, rfl, rfl⟩
  show w.data.add e = _
  rw [hs.data_eq, addAll_snoc]

/-! ### the block split -/

theorem splitBlocks_nil_nil (cfg : WCfg) : splitBlocks cfg [] [] = [] := by simp [splitBlocks]

theorem splitBlocks_nil_ne (cfg : WCfg) {cur : List Entry} (h : cur ≠ []) : splitBlocks cfg cur [] = [cur] := by
  simp [splitBlocks, h]

theorem splitBlocks_cut (cfg : WCfg) {cur : List Entry} {e : Entry} (es : List Entry)
    (h : cur ≠ [] ∧ cutTest cfg cur e) :
    splitBlocks cfg cur (e :: es) = cur :: splitBlocks cfg [e] es := by
  rw [splitBlocks, if_pos h]

theorem splitBlocks_nocut (cfg : WCfg) {cur : List Entry} {e : Entry} (es : List Entry)
    (h : ¬ (cur ≠ [] ∧ cutTest cfg cur e)) :
    splitBlocks cfg cur (e :: es) = splitBlocks cfg (cur ++ [e]) es := by
  rw [splitBlocks, if_neg h]

theorem splitBlocks_head (cfg : WCfg) (es : List Entry) : ∀ (cur : List Entry), cur ≠ [] →
    ∃ t rest, splitBlocks cfg cur es = (cur ++ t) :: rest := by
  induction es with
  | nil => intro cur h; exact ⟨[], [], by rw [splitBlocks_nil_ne cfg h, List.append_nil]⟩
  | cons e es ih =>
    intro cur h
    by_cases hc : cur ≠ [] ∧ cutTest cfg cur e
    · exact ⟨[], _, by rw [splitBlocks_cut cfg es hc, List.append_nil]⟩
    · obtain ⟨t, rest, ht⟩ := ih (cur ++ [e]) (by simp)
      exact ⟨[e] ++ t, rest, by rw [splitBlocks_nocut cfg es hc, ht, List.append_assoc]⟩

theorem firstKeyOf_append {cur : List Entry} (h : cur ≠ []) (t : List Entry) :
    firstKeyOf (cur ++ t) = firstKeyOf cur := by
  cases cur with
  | nil => exact absurd rfl h
  | cons a l => rfl

theorem canonSeps_cons_head (B : List Entry) {e : Entry} (t : List Entry) (rest : List (List Entry)) :
    canonSeps (B :: ([e] ++ t) :: rest) = shortestSep (lastKeyOf B) e.key :: canonSeps (([e] ++ t) :: rest) := rfl

theorem splitBlocks_ne_nil (cfg : WCfg) (es : List Entry) : ∀ (cur : List Entry),
    ∀ B ∈ splitBlocks cfg cur es, B ≠ [] := by
  induction es with
  | nil =>
    intro cur B hB
    by_cases h : cur = []
    · subst h; rw [splitBlocks_nil_nil] at hB; cases hB
    · rw [splitBlocks_nil_ne cfg h] at hB
      simp only [List.mem_singleton] at hB; subst hB; exact h
  | cons e es ih =>
    intro cur B hB
    by_cases hc : cur ≠ [] ∧ cutTest cfg cur e
    · rw [splitBlocks_cut cfg es hc, List.mem_cons] at hB
      rcases hB with rfl | hB
      · exact hc.1
      · exact ih _ B hB
    · rw [splitBlocks_nocut cfg es hc] at hB
      exact ih _ B hB

theorem splitBlocks_flatten (cfg : WCfg) (es : List Entry) : ∀ (cur : List Entry),
    (splitBlocks cfg cur es).flatten = cur ++ es := by
  induction es with
  | nil =>
    intro cur
    by_cases h : cur = []
    · subst h; rw [splitBlocks_nil_nil]; rfl
    · rw [splitBlocks_nil_ne cfg h]; simp
  | cons e es ih =>
    intro cur
    by_cases hc : cur ≠ [] ∧ cutTest cfg cur e
    · rw [splitBlocks_cut cfg es hc, List.flatten_cons, ih]; rfl
    · rw [splitBlocks_nocut cfg es hc, ih]; simp

/-! ### the invariant over `W.addAll` -/

def frames (cfg : WCfg) (comp : Bytes → Bytes) (bl : List (List Entry)) : List Bytes :=
  bl.map (blockFrame cfg comp)

/-- the index entries: separator key, varint of the block's file offset -/
def idxEntries (seps : List Bytes) (offs : List Nat) : List Entry :=
  (seps.zip offs).map fun p => { key := p.1, val := venc p.2 }

/-- statistics after accepting `es` and writing `nblk` data blocks of `fl` framed bytes in total -/
def addStats (m : Meta) (es : List Entry) (nblk fl : Nat) : Meta :=
  { m with countEntries := m.countEntries + es.length,
           bytesKeys := m.bytesKeys + (es.map (·.key.length)).sum,
           bytesValues := m.bytesValues + (es.map (·.val.length)).sum,
           bytesDataBlocks := m.bytesDataBlocks + fl,
           countDataBlocks := m.countDataBlocks + nblk }

/-- the state `w'` reached from `w` (current block `cur`) by adding `es` and flushing -/
structure Done (cfg : WCfg) (comp : Bytes → Bytes) (w w' : W) (cur es : List Entry) : Prop where
  out_eq : w'.out = w.out ++ (frames cfg comp (splitBlocks cfg cur es)).flatten
  index_eq : w'.index = w.index.addAll
      (idxEntries (canonSeps (splitBlocks cfg cur es))
        (frameOffsets w.pendingOffset (frames cfg comp (splitBlocks cfg cur es))))
  pend_eq : w'.pendingOffset = w.pendingOffset + (frames cfg comp (splitBlocks cfg cur es)).flatten.length
  m_eq : w'.m = addStats w.m es (splitBlocks cfg cur es).length
      (frames cfg comp (splitBlocks cfg cur es)).flatten.length

theorem addStats_nil (m : Meta) : addStats m [] 0 0 = m := by
  simp [addStats]

theorem addStats_block (m : Meta) (n : Nat) : addStats m [] 1 n = addBlockStats m n := by
  simp [addStats, addBlockStats]

theorem addStats_cons_cut (m : Meta) (e : Entry) (es : List Entry) (n nblk fl : Nat) :
    addStats (addEntryStats (addBlockStats m n) e) es nblk fl = addStats m (e :: es) (nblk + 1) (n + fl) := by
  simp only [addStats, addEntryStats, addBlockStats, List.length_cons, List.map_cons, List.sum_cons,
    Meta.mk.injEq, true_and]
  omega

theorem addStats_cons_nocut (m : Meta) (e : Entry) (es : List Entry) (nblk fl : Nat) :
    addStats (addEntryStats m e) es nblk fl = addStats m (e :: es) nblk fl := by
  simp only [addStats, addEntryStats, List.length_cons, List.map_cons, List.sum_cons,
    Meta.mk.injEq, true_and]
  omega

theorem run_gen (cfg : WCfg) (comp : Bytes → Bytes) (hc : cfg.comp = fun raw => some (comp raw))
    (es : List Entry) : ∀ (cur : List Entry) (w : W), WInv cfg w cur → StrictSorted es →
      (cur ≠ [] → ∀ e ∈ es, bcmp (lastKeyOf cur) e.key = .lt) →
      Done cfg comp w (w.addAll es).2.flush cur es := by
  induction es with
  | nil =>
    intro cur w hs _ _
    rw [Gate.addAll_nil]
    by_cases h : cur = []
    · subst h
      rw [Gate.flush_of_empty w (by rw [hs.data_eq]; rfl)]
      refine ⟨?_, ?_, ?_, ?_⟩ <;> rw [splitBlocks_nil_nil]
      · simp [frames]
      · rfl
      · simp [frames]
      · simp [frames, addStats_nil]
    · rw [flush_block hc w hs.cfg_eq hs.data_eq h]
      refine ⟨?_, ?_, ?_, ?_⟩ <;> rw [splitBlocks_nil_ne cfg h]
      · simp [frames]
      · show w.index.add { key := w.lastKey, val := venc w.pendingOffset } = _
        rw [hs.last_eq h]; rfl
      · simp [frames]
      · show addBlockStats w.m _ = _
        rw [← addStats_block]; simp [frames]
  | cons e es ih =>
    intro cur w hs hsort hlt
    obtain ⟨hlt_e, hsort'⟩ := StrictSorted_cons.mp hsort
    rw [Gate.addAll_cons]
    show Done cfg comp w ((w.add e.key e.val).2.addAll es).2.flush cur (e :: es)
    have hlt1 : cur ≠ [] → bcmp (lastKeyOf cur) e.key = .lt := fun h => hlt h e List.mem_cons_self
    by_cases hcut : cur ≠ [] ∧ cutTest cfg cur e
    · obtain ⟨hs2, ho, hi, hp, hm⟩ := add_cut hc hs e hlt1 hcut.1 hcut.2
      have := ih [e] _ hs2 hsort' (fun _ x hx => by rw [lastKeyOf_single]; exact hlt_e x hx)
      obtain ⟨t, rest, hsplit⟩ := splitBlocks_head cfg es [e] (by simp)
      refine ⟨?_, ?_, ?_, ?_⟩ <;> rw [splitBlocks_cut cfg es hcut]
      · rw [this.out_eq, ho]; simp [frames]
      · rw [this.index_eq, hi, hp, hsplit, canonSeps_cons_head]
        rfl
      · rw [this.pend_eq, hp]; simp [frames]; omega
      · rw [this.m_eq, hm, addStats_cons_cut]; simp [frames]
    · obtain ⟨hs2, ho, hi, hp, hm⟩ := add_nocut hs e hlt1 hcut
      have := ih (cur ++ [e]) _ hs2 hsort' (fun _ x hx => by rw [lastKeyOf_snoc]; exact hlt_e x hx)
      refine ⟨?_, ?_, ?_, ?_⟩ <;> rw [splitBlocks_nocut cfg es hcut]
      · rw [this.out_eq, ho]
      · rw [this.index_eq, hi, hp]
      · rw [this.pend_eq, hp]
      · rw [this.m_eq, hm, addStats_cons_nocut]

/-! ### the encoder on the canonical choices -/

theorem eframe_v2 (x : Bytes) : eframe .v2 x = frame x := rfl

theorem canonFile_dataFrames (cfg : WCfg) (pre : Bytes) (es : List Entry) (comp : Bytes → Bytes) :
    (canonFile cfg pre es).dataFrames comp = frames cfg comp (splitBlocks cfg [] es) := by
  unfold EFile.dataFrames canonFile frames
  simp only [List.map_map]
  rfl

theorem flatMap_entries (I : Nat) (bl : List (List Entry)) :
    (bl.map (canonBlock I)).flatMap (·.entries) = bl.flatten := by
  induction bl with
  | nil => rfl
  | cons B t ih => simp only [List.map_cons, List.flatMap_cons, canonBlock_entries, ih, List.flatten_cons]

theorem canonFile_allEntries (cfg : WCfg) (pre : Bytes) (es : List Entry) :
    (canonFile cfg pre es).blocks.flatMap (·.entries) = es := by
  show ((splitBlocks cfg [] es).map (canonBlock cfg.interval)).flatMap (·.entries) = es
  rw [flatMap_entries, splitBlocks_flatten]; rfl

theorem canonSeps_length : ∀ (bl : List (List Entry)), (canonSeps bl).length = bl.length
  | [] => rfl
  | [_] => rfl
  | _ :: b' :: rest => by
    simp only [canonSeps, List.length_cons, canonSeps_length (b' :: rest)]

/-- the sharing the block builder picks depends on the keys only -/
theorem canonItems_shared_keys (I : Nat) (es : List Entry) : ∀ (es' : List Entry) (c : Nat) (prev : Bytes),
    es.map (·.key) = es'.map (·.key) →
    (canonItems I c prev es).map (·.shared) = (canonItems I c prev es').map (·.shared) := by
  induction es with
  | nil =>
    intro es' c prev h
    cases es' with
    | nil => rfl
    | cons _ _ => simp at h
  | cons e es ih =>
    intro es' c prev h
    cases es' with
    | nil => simp at h
    | cons e' es' =>
      simp only [List.map_cons, List.cons.injEq] at h
      obtain ⟨hk, ht⟩ := h
      rw [canonItems_cons, canonItems_cons, List.map_cons, List.map_cons, hk, ih es' _ _ ht]

theorem idxEntries_keys (seps : List Bytes) (offs : List Nat) (h : seps.length ≤ offs.length) :
    (idxEntries seps offs).map (·.key) = seps := by
  unfold idxEntries
  rw [List.map_map]
  show (seps.zip offs).map Prod.fst = seps
  exact List.map_fst_zip h

theorem rebuild_items (C : List EEntry) (ps : List (Bytes × Nat))
    (h : C.map (·.e) = ps.map fun p => ({ key := p.1, val := venc p.2 } : Entry)) :
    (ps.zipIdx.map fun x => match x with
        | ((k, off), i) => ({ shared := (C.map (·.shared)).getD i 0, e := { key := k, val := venc off } } : EEntry)) = C := by
  apply List.ext_getElem?
  intro i
  have hi := congrArg (fun l => l[i]?) h
  simp only [List.getElem?_map] at hi
  simp only [List.getElem?_map, List.getElem?_zipIdx, Nat.zero_add]
  cases hp : ps[i]? with
  | none =>
    rw [hp] at hi
    cases hC : C[i]? with
    | none => rfl
    | some c => rw [hC] at hi; simp at hi
  | some p =>
    rw [hp] at hi
    cases hC : C[i]? with
    | none => rw [hC] at hi; simp at hi
    | some c =>
      rw [hC] at hi
      simp only [Option.map_some, Option.some.injEq] at hi
      obtain ⟨k, off⟩ := p
      simp only [Option.map_some, Option.some.injEq]
      have : (C.map (·.shared)).getD i 0 = c.shared := by
        simp [List.getD, List.getElem?_map, hC]
      rw [this, ← hi]

theorem canonFile_indexBlock (cfg : WCfg) (pre : Bytes) (es : List Entry) (comp : Bytes → Bytes) :
    (canonFile cfg pre es).indexBlock comp =
      canonBlock cfg.interval (idxEntries (canonSeps (splitBlocks cfg [] es))
        (frameOffsets pre.length (frames cfg comp (splitBlocks cfg [] es)))) := by
  have hlen : (canonSeps (splitBlocks cfg [] es)).length =
      (frameOffsets pre.length (frames cfg comp (splitBlocks cfg [] es))).length := by
    rw [canonSeps_length, frameOffsets_length, frames, List.length_map]
  unfold EFile.indexBlock
  rw [canonFile_dataFrames]
  unfold canonBlock
  simp only [EBlock.mk.injEq]
  constructor
  · show (List.map _ (List.zipIdx (List.zip (canonSeps (splitBlocks cfg [] es)) _))) = _
    have hsh : (canonFile cfg pre es).indexShared =
        (canonItems cfg.interval 0 [] (idxEntries (canonSeps (splitBlocks cfg [] es))
          (frameOffsets pre.length (frames cfg comp (splitBlocks cfg [] es))))).map (·.shared) := by
      show List.map _ (canonItems cfg.interval 0 [] _) = _
      apply canonItems_shared_keys
      rw [idxEntries_keys _ _ (by omega), List.map_map]
      show List.map (fun k => k) _ = _
      exact List.map_id _
    rw [hsh]
    apply rebuild_items
    rw [canonItems_map_e]
    rfl
  · show canonRestarts cfg.interval (splitBlocks cfg [] es).length = _
    unfold idxEntries
    rw [List.length_map, List.length_zip, ← hlen, Nat.min_self, canonSeps_length]

theorem canonFile_encode (cfg : WCfg) (pre : Bytes) (es : List Entry) (comp : Bytes → Bytes) :
    (canonFile cfg pre es).encode comp =
      pre ++ (frames cfg comp (splitBlocks cfg [] es)).flatten ++
        frame ((canonBlock cfg.interval (idxEntries (canonSeps (splitBlocks cfg [] es))
          (frameOffsets pre.length (frames cfg comp (splitBlocks cfg [] es))))).encode cfg.thr) ++
        ((canonFile cfg pre es).recount comp).write := by
  rw [EFile.encode_trailer, canonFile_dataFrames, canonFile_indexBlock, List.flatMap_id]
  rfl

/-! ### the writer's file -/

theorem WInv_new (cfg : WCfg) (pre : Nat) : WInv cfg (W.new cfg pre) [] :=
  ⟨rfl, rfl, fun h => absurd rfl h, fun _ => rfl⟩

theorem finish_eq (w : W) : w.finish = w.flush.out ++ frame w.flush.index.finish ++ w.finishMeta.write := rfl

theorem done_new (cfg : WCfg) (comp : Bytes → Bytes) (hc : cfg.comp = fun raw => some (comp raw))
    (pre : Nat) (es : List Entry) (hs : StrictSorted es) :
    Done cfg comp (W.new cfg pre) ((W.new cfg pre).addAll es).2.flush [] es :=
  run_gen cfg comp hc es [] _ (WInv_new cfg pre) hs (fun h => absurd rfl h)

theorem index_finish_run (cfg : WCfg) (comp : Bytes → Bytes) (hc : cfg.comp = fun raw => some (comp raw))
    (pre : Nat) (es : List Entry) (hs : StrictSorted es) :
    ((W.new cfg pre).addAll es).2.flush.index.finish =
      (canonBlock cfg.interval (idxEntries (canonSeps (splitBlocks cfg [] es))
          (frameOffsets pre (frames cfg comp (splitBlocks cfg [] es))))).encode cfg.thr := by
  rw [(done_new cfg comp hc pre es hs).index_eq]
  exact addAll_finish cfg _

/-! ### legality of the canonical choices -/

theorem block_last {B : List Entry} (h : B ≠ []) :
    ∃ l, B.getLast? = some l ∧ l ∈ B ∧ lastKeyOf B = l.key := by
  cases hl : B.getLast? with
  | none => exact absurd (List.getLast?_eq_none_iff.mp hl) h
  | some l => exact ⟨l, rfl, List.mem_of_getLast? hl, by simp [lastKeyOf, hl]⟩

theorem block_first {B : List Entry} (h : B ≠ []) : ∃ x t, B = x :: t ∧ firstKeyOf B = x.key := by
  cases B with
  | nil => exact absurd rfl h
  | cons x t => exact ⟨x, t, rfl, rfl⟩

theorem adj_lt {b b' : List Entry} (h : ∀ x ∈ b, ∀ y ∈ b', bcmp x.key y.key = .lt) (hb : b ≠ []) (hb' : b' ≠ []) :
    bcmp (lastKeyOf b) (firstKeyOf b') = .lt := by
  obtain ⟨l, _, hl, hlk⟩ := block_last hb
  obtain ⟨x, t, rfl, hxk⟩ := block_first hb'
  rw [hlk, hxk]
  exact h l hl x List.mem_cons_self

theorem first_le_last {B : List Entry} (hs : StrictSorted B) (hB : B ≠ []) :
    bcmp (firstKeyOf B) (lastKeyOf B) ≠ .gt := by
  obtain ⟨l, _, hl, hlk⟩ := block_last hB
  obtain ⟨x, t, rfl, hxk⟩ := block_first hB
  rw [hlk, hxk]
  exact sorted_ge_first _ hs x rfl l hl

theorem canonSeps_getElem? : ∀ (bl : List (List Entry)) (j : Nat) (B : List Entry), bl[j]? = some B →
    (canonSeps bl)[j]? = some (match bl[j + 1]? with
      | some B' => shortestSep (lastKeyOf B) (firstKeyOf B')
      | none => lastKeyOf B)
  | [], _, _, h => by simp at h
  | [_], 0, _, h => by cases h; rfl
  | [_], _ + 1, _, h => by simp at h
  | _ :: _ :: _, 0, _, h => by cases h; rfl
  | _ :: b' :: rest, j + 1, B, h => by
    simpa [canonSeps] using canonSeps_getElem? (b' :: rest) j B (by simpa using h)

/-- block `j`'s index key: at least the block's last key, not longer than it, and strictly below the first key of
    block `j+1` -/
theorem seps_spec (bl : List (List Entry)) (hne : ∀ B ∈ bl, B ≠ []) (hs : StrictSorted bl.flatten)
    (j : Nat) (B : List Entry) (h : bl[j]? = some B) :
    ∃ sep, (canonSeps bl)[j]? = some sep ∧ bcmp (lastKeyOf B) sep ≠ .gt ∧
      sep.length ≤ (lastKeyOf B).length ∧
      ∀ B', bl[j + 1]? = some B' → bcmp sep (firstKeyOf B') = .lt := by
  refine ⟨_, canonSeps_getElem? bl j B h, ?_⟩
  cases hB' : bl[j + 1]? with
  | none => exact ⟨by rw [bcmp_refl]; simp, Nat.le_refl _, fun _ h' => by cases h'⟩
  | some B' =>
    have hj := BlockEnc.lt_of_getElem? _ _ _ h
    have hj' := BlockEnc.lt_of_getElem? _ _ _ hB'
    rw [List.getElem?_eq_getElem hj] at h
    rw [List.getElem?_eq_getElem hj'] at hB'
    cases h
    cases hB'
    have sp := sep_spec (adj_lt
      (List.pairwise_iff_getElem.mp (List.pairwise_flatten.mp hs).2 j (j + 1) hj hj' (Nat.lt_succ_self j))
      (hne _ (List.getElem_mem hj)) (hne _ (List.getElem_mem hj')))
    exact ⟨sp.1, sep_length_le _ _, fun _ h' => by cases h'; exact sp.2⟩

/-- the index keys are strictly increasing: `sep j` < first key of block `j+1` ≤ its last key ≤ `sep (j+1)` -/
theorem seps_sorted (bl : List (List Entry)) (hne : ∀ B ∈ bl, B ≠ []) (hs : StrictSorted bl.flatten) :
    (canonSeps bl).Pairwise (fun a b => bcmp a b = .lt) := by
  refine pairwise_of_adjacent (fun a b : Bytes => bcmp a b = .lt) (fun _ _ _ => bcmp_lt_trans) _ (fun i hi => ?_)
  rw [canonSeps_length] at hi
  obtain ⟨s, hs1, _, _, hlt⟩ := seps_spec bl hne hs i _ (List.getElem?_eq_getElem (by omega))
  obtain ⟨s', hs2, hle, _, _⟩ := seps_spec bl hne hs (i + 1) _ (List.getElem?_eq_getElem hi)
  rw [(List.getElem?_eq_some_iff.mp hs1).2, (List.getElem?_eq_some_iff.mp hs2).2]
  exact bcmp_lt_le_trans (hlt _ (List.getElem?_eq_getElem hi))
    (bcmp_le_trans (first_le_last ((List.pairwise_flatten.mp hs).1 _ (List.getElem_mem hi))
      (hne _ (List.getElem_mem hi))) hle)

theorem canonBlock_getLast (I : Nat) (B : List Entry) (l : Entry) (h : B.getLast? = some l) :
    ∃ it, (canonBlock I B).items.getLast? = some it ∧ it.e = l := by
  have := congrArg List.getLast? (canonItems_map_e I B 0 [])
  rw [List.getLast?_map, h] at this
  exact Option.map_eq_some_iff.mp this

theorem canonBlock_head (I : Nat) (B : List Entry) (x : Entry) (h : B.head? = some x) :
    ∃ it, (canonBlock I B).items.head? = some it ∧ it.e = x := by
  have := congrArg List.head? (canonItems_map_e I B 0 [])
  rw [List.head?_map, h] at this
  exact Option.map_eq_some_iff.mp this

theorem mem_split_sub (cfg : WCfg) (es : List Entry) {B : List Entry} (hB : B ∈ splitBlocks cfg [] es) :
    B.Sublist es := by
  have := List.sublist_flatten_of_mem hB
  rw [splitBlocks_flatten] at this
  exact this

theorem vlen_lt_of_lt64 {v : Nat} (h : v < 2^64) : vlen v < 2^32 := by
  have := vlen_le10 h; omega

/-! ### cadence, size estimate, cut rule (C09) -/

/-- `block_builder_current_size_estimate` is exact: it is the length of what `block_builder_finish` writes -/
theorem estimate_eq_finish_length (b : BB) : b.estimate = b.finish.length := by
  have hl : (b.restarts.flatMap fun r => if b.buf.length > b.thr then fixed64 r else fixed32 r).length =
      b.restarts.length * (if b.buf.length > b.thr then 8 else 4) :=
    flatMap_const_length _ _ (fun r => by
      by_cases hP : b.buf.length > b.thr
      · rw [if_pos hP, if_pos hP]; rfl
      · rw [if_neg hP, if_neg hP]; rfl) _
  unfold BB.estimate
  show _ = (b.buf ++ _ ++ fixed32 _).length
  rw [List.length_append, List.length_append, hl, fixed32_length]
  split <;> omega

theorem estimate_eq_encode_length (cfg : WCfg) (B : List Entry) :
    (BB.addAll (bb0 cfg) B).estimate = ((canonBlock cfg.interval B).encode cfg.thr).length := by
  rw [estimate_eq_finish_length, addAll_finish]

theorem hdr_le (sh : Nat) (e : Entry) (hsh : sh ≤ e.key.length) (hk : e.key.length < 2^32)
    (hv : e.val.length < 2^32) : hdrLen sh e ≤ 15 := by
  have h1 := vlen_le5 (show sh < 2^32 by omega)
  have h2 := vlen_le5 (show e.key.length - sh < 2^32 by omega)
  have h3 := vlen_le5 hv
  unfold hdrLen; omega

theorem hdr0_le (e : Entry) (hk : e.key.length < 2^32) (hv : e.val.length < 2^32) : hdrLen 0 e ≤ 11 := by
  have h1 : vlen 0 = 1 := VarintAux.vlen_lt (by omega)
  have h2 := vlen_le5 (show e.key.length - 0 < 2^32 by omega)
  have h3 := vlen_le5 hv
  unfold hdrLen; omega

/-- the size estimate (`L` buffer bytes, `r` restart points) after `d` more bytes and `r' - r ≤ 1` more restart
    points, when `d` plus a 4-byte slot per new restart point is within the allowance `15 + kl + vl` -/
theorem est_step (thr L r d kl vl r' : Nat) (hr : r ≤ r') (hr' : r' ≤ r + 1)
    (hd : d + 4 * (r' - r) ≤ 15 + kl + vl) :
    (if L + d > thr then L + d + r' * 8 + 4 else L + d + r' * 8 / 2 + 4) ≤
      (if L > thr then L + r * 8 + 4 else L + r * 8 / 2 + 4) + 15 + kl + vl +
        (if L + d > thr then (if L > thr then 4 else 4 * r') else 0) := by
  split <;> split <;> omega

/-- one more entry costs at most its header allowance of 15 bytes plus key and value, whatever the restart-slot
    width; the extra term is the price of the 8-byte slots -/
theorem est_add_gen (b : BB) (e : Entry) (hk : e.key.length < 2^32) (hv : e.val.length < 2^32) :
    (b.add e).estimate ≤ b.estimate + 15 + e.key.length + e.val.length +
      (if (b.add e).buf.length > b.thr then
         (if b.buf.length > b.thr then 4 else 4 * (b.add e).restarts.length) else 0) := by
  by_cases h : b.counter < b.interval
  · have hl := encEntry_length (lcp b.lastKey e.key) e (lcp_le_right _ _) hk hv
    have hh := hdr_le (lcp b.lastKey e.key) e (lcp_le_right _ _) hk hv
    rw [add_lt b e h]
    simp only [BB.estimate, List.length_append]
    exact est_step _ _ _ _ _ _ _ (Nat.le_refl _) (Nat.le_succ _) (by omega)
  · have hl := encEntry_length 0 e (Nat.zero_le _) hk hv
    have hh := hdr0_le e hk hv
    rw [add_ge b e h]
    simp only [BB.estimate, List.length_append, List.length_cons, List.length_nil]
    exact est_step _ _ _ _ _ _ _ (Nat.le_succ _) (Nat.le_refl _) (by omega)

theorem est_add (b : BB) (e : Entry) (hk : e.key.length < 2^32) (hv : e.val.length < 2^32)
    (hthr : (b.add e).buf.length ≤ b.thr) :
    (b.add e).estimate ≤ b.estimate + 15 + e.key.length + e.val.length := by
  have := est_add_gen b e hk hv
  rw [if_neg (by omega)] at this
  exact this

/-- inside a block no entry but the first passed the cut test; for block 0, which starts with the block `cur`
    under construction, only for the entries added after `cur` (the last hypothesis) -/
theorem nocut_inside (cfg : WCfg) (es : List Entry) : ∀ (cur : List Entry) (j : Nat) (B : List Entry),
    (splitBlocks cfg cur es)[j]? = some B → ∀ (B1 : List Entry) (e : Entry) (B2 : List Entry),
    B = B1 ++ e :: B2 → B1 ≠ [] → (j = 0 → cur.length ≤ B1.length) → ¬ cutTest cfg B1 e := by
  induction es with
  | nil =>
    intro cur j B hB B1 e B2 hsplit _ hj
    by_cases hc : cur = []
    · subst hc; rw [splitBlocks_nil_nil] at hB; simp at hB
    · rw [splitBlocks_nil_ne cfg hc] at hB
      cases j with
      | zero =>
        simp only [List.getElem?_cons_zero, Option.some.injEq] at hB
        have := hj rfl
        rw [hB, hsplit, List.length_append, List.length_cons] at this
        omega
      | succ j => simp at hB
  | cons x es ih =>
    intro cur j B hB B1 e B2 hsplit hne hj
    by_cases hcut : cur ≠ [] ∧ cutTest cfg cur x
    · rw [splitBlocks_cut cfg es hcut] at hB
      cases j with
      | zero =>
        simp only [List.getElem?_cons_zero, Option.some.injEq] at hB
        have := hj rfl
        rw [hB, hsplit, List.length_append, List.length_cons] at this
        omega
      | succ j =>
        simp only [List.getElem?_cons_succ] at hB
        refine ih [x] j B hB B1 e B2 hsplit hne (fun _ => ?_)
        cases B1 with
        | nil => exact absurd rfl hne
        | cons _ _ => simp
    · rw [splitBlocks_nocut cfg es hcut] at hB
      by_cases hlen : j = 0 ∧ B1.length = cur.length
      · obtain ⟨hj0, hlen⟩ := hlen
        subst hj0
        obtain ⟨t, rest, hsp⟩ := splitBlocks_head cfg es (cur ++ [x]) (by simp)
        rw [hsp] at hB
        simp only [List.getElem?_cons_zero, Option.some.injEq] at hB
        rw [← hB, List.append_assoc] at hsplit
        obtain ⟨h1, h2⟩ := List.append_inj hsplit hlen.symm
        simp only [List.singleton_append, List.cons.injEq] at h2
        subst h1
        rw [← h2.1]
        exact fun hc => hcut ⟨hne, hc⟩
      · refine ih (cur ++ [x]) j B hB B1 e B2 hsplit hne (fun hj0 => ?_)
        have := hj hj0
        simp only [List.length_append, List.length_cons, List.length_nil]
        omega

/-- a block was closed only because the next entry passed the cut test -/
theorem cut_between (cfg : WCfg) (es : List Entry) : ∀ (cur : List Entry) (j : Nat) (B : List Entry) (e : Entry)
    (t : List Entry), (splitBlocks cfg cur es)[j]? = some B → (splitBlocks cfg cur es)[j + 1]? = some (e :: t) →
    cutTest cfg B e := by
  induction es with
  | nil =>
    intro cur j B e t hB hB'
    by_cases hc : cur = []
    · subst hc; rw [splitBlocks_nil_nil] at hB; simp at hB
    · rw [splitBlocks_nil_ne cfg hc] at hB'; simp at hB'
  | cons x es ih =>
    intro cur j B e t hB hB'
    by_cases hcut : cur ≠ [] ∧ cutTest cfg cur x
    · rw [splitBlocks_cut cfg es hcut] at hB hB'
      cases j with
      | zero =>
        simp only [List.getElem?_cons_zero, Option.some.injEq] at hB
        obtain ⟨t', rest, hsp⟩ := splitBlocks_head cfg es [x] (by simp)
        rw [hsp] at hB'
        simp only [Nat.zero_add, List.getElem?_cons_succ, List.getElem?_cons_zero, Option.some.injEq,
          List.singleton_append, List.cons.injEq] at hB'
        rw [← hB, ← hB'.1]
        exact hcut.2
      | succ j =>
        simp only [List.getElem?_cons_succ] at hB hB'
        exact ih [x] j B e t hB hB'
    · rw [splitBlocks_nocut cfg es hcut] at hB hB'
      exact ih _ j B e t hB hB'

end WriterP

open WriterP

/-! ### Theorem W -/

/-- the metadata the writer stores is the recount of the canonical file -/
theorem C10_meta (cfg : WCfg) (comp : Bytes → Bytes) (hc : cfg.comp = fun raw => some (comp raw))
    (pre : Bytes) (es : List Entry) (hs : StrictSorted es) :
    ((W.new cfg pre.length).addAll es).2.finishMeta = (canonFile cfg pre es).recount comp := by
  have hf := done_new cfg comp hc pre.length es hs
  have hbl : (canonFile cfg pre es).blocks.length = (splitBlocks cfg [] es).length := by
    simp [canonFile]
  show ({ ((W.new cfg pre.length).addAll es).2.flush.m with
          indexBlockOffset := ((W.new cfg pre.length).addAll es).2.flush.pendingOffset,
          bytesIndexBlock := (frame ((W.new cfg pre.length).addAll es).2.flush.index.finish).length } : Meta) = _
  rw [index_finish_run cfg comp hc pre.length es hs, hf.m_eq, hf.pend_eq]
  unfold EFile.recount
  rw [show (canonFile cfg pre es).entries = es from canonFile_allEntries cfg pre es, canonFile_dataFrames,
    canonFile_indexBlock, List.flatMap_id, hbl]
  simp [addStats, W.new, canonFile, eframe_v2]

/-- On strictly increasing input the writer's bytes are exactly the independent encoder's output for
    the canonical choices.  (Neither `1 ≤ interval` nor the 32-bit length bounds are needed for this equation:
    both sides truncate the entry header fields in the same way.) -/
theorem W_refines_format (cfg : WCfg) (comp : Bytes → Bytes) (hc : cfg.comp = fun raw => some (comp raw))
    (pre : Bytes) (es : List Entry) (hs : StrictSorted es) :
    pre ++ Writer.run cfg pre.length es = (canonFile cfg pre es).encode comp := by
  have hf := done_new cfg comp hc pre.length es hs
  unfold Writer.run
  rw [canonFile_encode, finish_eq, C10_meta cfg comp hc pre es hs,
    index_finish_run cfg comp hc pre.length es hs, hf.out_eq]
  simp [W.new]

theorem canonFile_entries (cfg : WCfg) (pre : Bytes) (es : List Entry) : (canonFile cfg pre es).entries = es :=
  canonFile_allEntries cfg pre es

theorem C09_blocks (cfg : WCfg) (pre : Bytes) (es : List Entry) :
    (canonFile cfg pre es).blocks = (splitBlocks cfg [] es).map (canonBlock cfg.interval) := rfl

open BlockEnc in
/-- the canonical choices are legal as soon as the varint of every data block offset is shorter than 4 GiB -/
theorem canonFile_legal' (cfg : WCfg) (comp : Bytes → Bytes) (pre : Bytes) (es : List Entry)
    (hi : 1 ≤ cfg.interval) (hs : StrictSorted es)
    (hlen : ∀ e ∈ es, e.key.length < 2^32 ∧ e.val.length < 2^32)
    (hoff : ∀ off ∈ frameOffsets pre.length ((canonFile cfg pre es).dataFrames comp), vlen off < 2^32) :
    (canonFile cfg pre es).legal comp = true := by
  have hne := splitBlocks_ne_nil cfg es []
  have hfl : (splitBlocks cfg [] es).flatten = es := by rw [splitBlocks_flatten]; rfl
  have hsf : StrictSorted (splitBlocks cfg [] es).flatten := by rw [hfl]; exact hs
  have hblocks := C09_blocks cfg pre es
  have hseps : (canonFile cfg pre es).seps = canonSeps (splitBlocks cfg [] es) := rfl
  unfold EFile.legal
  simp only [Bool.and_eq_true]
  refine ⟨⟨⟨?_, ?_⟩, ?_⟩, ?_⟩
  · -- every data block legal and non-empty
    rw [List.all_eq_true]
    intro b hb
    rw [hblocks] at hb
    obtain ⟨B, hB, rfl⟩ := List.mem_map.mp hb
    have hsub := mem_split_sub cfg es hB
    have hleg := canonBlock_legal cfg.interval B hi (List.Pairwise.sublist hsub hs)
      (fun e he => hlen e (hsub.subset he))
    rw [hleg, Bool.true_and, Bool.not_eq_true', List.isEmpty_eq_false_iff]
    intro h0
    have := canonItems_map_e cfg.interval B 0 []
    rw [show canonItems cfg.interval 0 [] B = [] from h0] at this
    exact hne B hB this.symm
  · rw [hblocks, hseps, canonSeps_length, List.length_map]; simp
  · -- the index block
    rw [canonFile_indexBlock]
    rw [canonFile_dataFrames] at hoff
    apply canonBlock_legal _ _ hi
    · -- strictly increasing index keys
      have hk := idxEntries_keys (canonSeps (splitBlocks cfg [] es))
        (frameOffsets pre.length (frames cfg comp (splitBlocks cfg [] es)))
        (by rw [canonSeps_length, frameOffsets_length, frames, List.length_map]; omega)
      have := seps_sorted _ hne hsf
      rw [← hk, List.pairwise_map] at this
      exact this
    · intro e he
      unfold idxEntries at he
      obtain ⟨⟨k, off⟩, hp, rfl⟩ := List.mem_map.mp he
      obtain ⟨hk, ho⟩ := List.of_mem_zip hp
      refine ⟨?_, ?_⟩
      · show k.length < 2^32
        obtain ⟨j, hj, rfl⟩ := List.mem_iff_getElem.mp hk
        rw [canonSeps_length] at hj
        obtain ⟨sep, h1, _, h3, _⟩ := seps_spec _ hne hsf j _ (List.getElem?_eq_getElem hj)
        have hjs : j < (canonSeps (splitBlocks cfg [] es)).length := by rw [canonSeps_length]; exact hj
        rw [List.getElem?_eq_getElem hjs, Option.some.injEq] at h1
        rw [h1]
        have hBm : (splitBlocks cfg [] es)[j] ∈ splitBlocks cfg [] es := List.getElem_mem hj
        obtain ⟨l, _, hl, hlk⟩ := block_last (hne _ hBm)
        rw [hlk] at h3
        have := (hlen l ((mem_split_sub cfg es hBm).subset hl)).1
        omega
      · show (venc off).length < 2^32
        rw [venc_length]; exact hoff off ho
  · -- separators between the blocks
    rw [List.all_eq_true]
    rintro ⟨b, j⟩ hx
    have hbj : (canonFile cfg pre es).blocks[j]? = some b := List.mem_zipIdx_iff_getElem?.mp hx
    rw [hblocks, List.getElem?_map] at hbj
    cases hBj : (splitBlocks cfg [] es)[j]? with
    | none => rw [hBj] at hbj; simp at hbj
    | some B =>
      rw [hBj] at hbj
      simp only [Option.map_some, Option.some.injEq] at hbj
      subst hbj
      have hBm : B ∈ splitBlocks cfg [] es := List.mem_of_getElem? hBj
      obtain ⟨sep, h1, h2, _, h4⟩ := seps_spec _ hne hsf j B hBj
      obtain ⟨l, hl, _, hlk⟩ := block_last (hne B hBm)
      obtain ⟨it, hit, hite⟩ := canonBlock_getLast cfg.interval B l hl
      simp only [hit, hseps, h1]
      rw [Bool.and_eq_true]
      constructor
      · simp only [ble, hite, ← hlk, bne_iff_ne]
        exact h2
      · rw [hblocks, List.getElem?_map]
        cases hB' : (splitBlocks cfg [] es)[j + 1]? with
        | none => rfl
        | some B' =>
          simp only [Option.map_some]
          have hB'm : B' ∈ splitBlocks cfg [] es := List.mem_of_getElem? hB'
          obtain ⟨x, t, hx', hxk⟩ := block_first (hne B' hB'm)
          obtain ⟨it', hit', hite'⟩ := canonBlock_head cfg.interval B' x (by rw [hx']; rfl)
          simp only [hit', blt, hite', ← hxk, beq_iff_eq]
          exact h4 B' hB'

/-- With a bound on the file size instead.  Some size bound is needed:
    `EBlock.legal` demands that every value is shorter than 4 GiB, and the values of the index block are the
    varints of the block offsets; without any bound on `pre.length` that can fail (mathematically: a foreign
    prefix of `128^(2^32)` bytes).  "The file is smaller than 2^64 bytes" is more than enough. -/
theorem canonFile_legal (cfg : WCfg) (comp : Bytes → Bytes) (pre : Bytes) (es : List Entry)
    (hi : 1 ≤ cfg.interval) (hs : StrictSorted es)
    (hlen : ∀ e ∈ es, e.key.length < 2^32 ∧ e.val.length < 2^32)
    (hsize : ((canonFile cfg pre es).encode comp).length < 2^64) :
    (canonFile cfg pre es).legal comp = true := by
  apply canonFile_legal' cfg comp pre es hi hs hlen
  intro off ho
  rw [canonFile_dataFrames] at ho
  have h1 := frameOffsets_le _ _ off ho
  rw [canonFile_encode] at hsize
  simp only [List.length_append] at hsize
  exact vlen_lt_of_lt64 (by omega)

/-! ### C09: cadence, cut rule, size rule -/

/-- **C09 (cadence)**, stated on the fields of the block: the restart points are exactly the entry indices
    `0, interval, 2·interval, …` (strictly increasing), an entry at a restart point shares nothing, and every other
    entry shares exactly the longest common prefix with the key before it. -/
theorem C09_cadence (interval : Nat) (hi : 1 ≤ interval) (B : List Entry) :
    (∀ i, i ∈ (canonBlock interval B).restarts ↔
      i < max (canonBlock interval B).items.length 1 ∧ i % interval = 0) ∧
    (canonBlock interval B).restarts.Pairwise (· < ·) ∧
    (∀ i it, (canonBlock interval B).items[i]? = some it →
      it.shared = if i % interval = 0 then 0
                  else lcp ((((canonBlock interval B).items[i - 1]?).map (·.e.key)).getD []) it.e.key) := by
  have hlen : (canonBlock interval B).items.length = B.length := BlockEnc.canonItems_length _ _ _ _
  refine ⟨fun i => by rw [hlen]; exact mem_canonRestarts interval B.length i hi,
    BlockEnc.canonRestarts_pairwise interval B.length hi, fun i it h => ?_⟩
  have hprev : ∀ k : Nat, (B[k]?).map Entry.key = ((canonBlock interval B).items[k]?).map (fun x : EEntry => x.e.key) := by
    intro k
    conv => lhs; rw [← BlockEnc.canonItems_map_e interval B 0 []]
    rw [List.getElem?_map, Option.map_map]
    rfl
  rw [BlockEnc.canonItems_shared_exact interval B 0 [] i it h]
  cases i with
  | zero =>
    rw [Nat.zero_mod, if_pos rfl, if_pos rfl, BlockEnc.lcp_nil_left]
    split <;> rfl
  | succ i =>
    have hlt : i + 1 < B.length := hlen ▸ BlockEnc.lt_of_getElem? _ _ _ h
    -- past index 0 the restart indices counted from the start are those of the block
    have hm : i + 1 ∈ canonRestartsFrom interval 0 B.length ↔ (i + 1) % interval = 0 := by
      have := mem_canonRestarts interval B.length (i + 1) hi
      rw [canonRestarts, List.mem_cons] at this
      constructor
      · exact fun hc => (this.mp (Or.inr hc)).2
      · exact fun hmod => (this.mpr ⟨by omega, hmod⟩).resolve_left (Nat.succ_ne_zero i)
    simp only [hm, Nat.succ_ne_zero, if_false, hprev]

/-- **C09 (cut rule)**: block `j` was closed only because the first entry `(k, v)` of block `j+1` made
    `block_builder_current_size_estimate(block j) + 15 + |k| + |v| ≥ block_size`.  (The estimate is exact: it
    is the length of the finished block, `estimate_eq_encode_length`.) -/
theorem C09_cut_rule (cfg : WCfg) (es : List Entry) (j : Nat) (B : List Entry) (e : Entry) (t : List Entry)
    (hB : (splitBlocks cfg [] es)[j]? = some B) (hB' : (splitBlocks cfg [] es)[j + 1]? = some (e :: t)) :
    BB.estimate (BB.addAll (bb0 cfg) B) + 15 + e.key.length + e.val.length ≥ cfg.effBlockSize ∧
    ((canonBlock cfg.interval B).encode cfg.thr).length + 15 + e.key.length + e.val.length ≥ cfg.effBlockSize := by
  have := cut_between cfg es [] j B e t hB hB'
  refine ⟨this, ?_⟩
  rw [← estimate_eq_encode_length]; exact this

/-- **C09 (no early cut)**: conversely, inside a block every entry but the first failed the cut test -/
theorem C09_nocut_rule (cfg : WCfg) (es : List Entry) (B : List Entry) (hB : B ∈ splitBlocks cfg [] es)
    (B1 : List Entry) (e : Entry) (B2 : List Entry) (hsplit : B = B1 ++ e :: B2) (hne : B1 ≠ []) :
    ((canonBlock cfg.interval B1).encode cfg.thr).length + 15 + e.key.length + e.val.length < cfg.effBlockSize := by
  obtain ⟨j, hj, rfl⟩ := List.mem_iff_getElem.mp hB
  have := nocut_inside cfg es [] j _ (List.getElem?_eq_getElem hj) B1 e B2 hsplit hne (fun _ => Nat.zero_le _)
  unfold cutTest at this
  rw [estimate_eq_encode_length] at this
  omega

/-- **C09 (size rule), general form**: a data block with more than one entry is shorter than the block size, plus
    an excess that is only there when the block's entry region exceeds the restart-width threshold `thr`
    (`UINT32_MAX` in C): 4 bytes when the region was already above the threshold before the last entry (an 8-byte
    restart slot does not fit the 15-byte allowance), and 4 bytes per restart point when the last entry crosses the
    threshold (the estimate had been computed with 4-byte slots). -/
theorem C09_size_rule_gen (cfg : WCfg) (es : List Entry)
    (hlen : ∀ e ∈ es, e.key.length < 2^32 ∧ e.val.length < 2^32)
    (B : List Entry) (hB : B ∈ splitBlocks cfg [] es) (B1 : List Entry) (e : Entry) (hsplit : B = B1 ++ [e])
    (hne : B1 ≠ []) :
    ((canonBlock cfg.interval B).encode cfg.thr).length <
      cfg.effBlockSize +
        (if (canonBlock cfg.interval B).region.length > cfg.thr then
           (if (canonBlock cfg.interval B1).region.length > cfg.thr then 4
            else 4 * (canonBlock cfg.interval B).restarts.length) else 0) := by
  have hnc := C09_nocut_rule cfg es B hB B1 e [] hsplit hne
  have hmem : e ∈ es := (mem_split_sub cfg es hB).subset (by rw [hsplit]; simp)
  have := est_add_gen (BB.addAll (bb0 cfg) B1) e (hlen e hmem).1 (hlen e hmem).2
  rw [addAll_snoc, ← hsplit, estimate_eq_encode_length, estimate_eq_encode_length, addAll_bb0_thr,
    addAll_bb0_buf, addAll_bb0_buf, addAll_bb0_restarts_length] at this
  omega

/-- **C09 (size rule)**: a data block holding more than one entry whose entry region is at most `thr` bytes
    (always the case below 4 GiB) is shorter than the block size. -/
theorem C09_size_rule_lt (cfg : WCfg) (es : List Entry)
    (hlen : ∀ e ∈ es, e.key.length < 2^32 ∧ e.val.length < 2^32)
    (B : List Entry) (hB : B ∈ splitBlocks cfg [] es) (h1 : 1 < B.length)
    (hreg : (canonBlock cfg.interval B).region.length ≤ cfg.thr) :
    ((canonBlock cfg.interval B).encode cfg.thr).length < cfg.effBlockSize := by
  have hBne : B ≠ [] := by intro h; rw [h] at h1; simp at h1
  have hsplit : B = B.dropLast ++ [B.getLast hBne] := (List.dropLast_concat_getLast hBne).symm
  have hne : B.dropLast ≠ [] := by
    intro h
    have := congrArg List.length h
    simp only [List.length_dropLast, List.length_nil] at this
    omega
  have := C09_size_rule_gen cfg es hlen B hB _ _ hsplit hne
  rw [if_neg (by omega)] at this
  exact this

theorem C09_size_rule (cfg : WCfg) (es : List Entry)
    (hlen : ∀ e ∈ es, e.key.length < 2^32 ∧ e.val.length < 2^32)
    (B : List Entry) (hB : B ∈ splitBlocks cfg [] es) (h1 : 1 < B.length)
    (hreg : (canonBlock cfg.interval B).region.length ≤ cfg.thr) :
    ((canonBlock cfg.interval B).encode cfg.thr).length ≤ cfg.effBlockSize :=
  Nat.le_of_lt (C09_size_rule_lt cfg es hlen B hB h1 hreg)

/-- above the threshold (8-byte restart slots throughout): at most 3 bytes over -/
theorem C09_size_rule_big (cfg : WCfg) (es : List Entry)
    (hlen : ∀ e ∈ es, e.key.length < 2^32 ∧ e.val.length < 2^32)
    (B : List Entry) (hB : B ∈ splitBlocks cfg [] es) (B1 : List Entry) (e : Entry) (hsplit : B = B1 ++ [e])
    (hreg : (canonBlock cfg.interval B1).region.length > cfg.thr) :
    ((canonBlock cfg.interval B).encode cfg.thr).length < cfg.effBlockSize + 4 := by
  have hne : B1 ≠ [] := by
    intro h; rw [h] at hreg
    simp [canonBlock, canonItems, EBlock.region] at hreg
  have := C09_size_rule_gen cfg es hlen B hB B1 e hsplit hne
  rw [if_pos hreg] at this
  split at this <;> omega

/-- the threshold condition of the size rule cannot be dropped: with `thr = 30`, `interval = 1` and block size 77
    the eighth 4-byte entry crosses the threshold and the block (8 entries, 100 bytes) is 23 bytes too long -/
example :
    let cfg : WCfg := { blockSize := 77, minBlockSize := 16, interval := 1, thr := 30 }
    let es : List Entry := (List.range 8).map fun i => ⟨[i.toUInt8], []⟩
    splitBlocks cfg [] es = [es] ∧ ((canonBlock cfg.interval es).encode cfg.thr).length = 100 := by
  decide +kernel

/-! ### C10: the trailer statistics -/

/-- **C10**: every statistic in the trailer equals its recount -/
theorem C10_stats (cfg : WCfg) (comp : Bytes → Bytes) (hc : cfg.comp = fun raw => some (comp raw))
    (pre : Bytes) (es : List Entry) (hs : StrictSorted es) :
    let m := ((W.new cfg pre.length).addAll es).2.finishMeta
    let f := canonFile cfg pre es
    m.countEntries = es.length ∧
    m.bytesKeys = (es.map (·.key.length)).sum ∧
    m.bytesValues = (es.map (·.val.length)).sum ∧
    m.countDataBlocks = (splitBlocks cfg [] es).length ∧
    m.bytesDataBlocks = ((f.dataFrames comp).map List.length).sum ∧
    m.indexBlockOffset = pre.length + m.bytesDataBlocks ∧
    m.bytesIndexBlock = (eframe .v2 ((f.indexBlock comp).encode cfg.thr)).length ∧
    m.dataBlockSize = cfg.effBlockSize ∧
    m.compression = cfg.compression := by
  intro m f
  have hm : m = f.recount comp := C10_meta cfg comp hc pre es hs
  have he : f.entries = es := canonFile_entries cfg pre es
  rw [hm]
  refine ⟨congrArg List.length he, ?_, ?_, ?_, ?_, rfl, rfl, rfl, rfl⟩
  · show (f.entries.map _).sum = _
    rw [he]
  · show (f.entries.map _).sum = _
    rw [he]
  · show ((splitBlocks cfg [] es).map _).length = _
    rw [List.length_map]
  · show ((f.dataFrames comp).flatMap id).length = _
    rw [List.flatMap_id, List.length_flatten]

/-- the trailer is the last thing the writer emits, and it is `metadata_write` of those statistics -/
theorem C10_trailer (w : W) : ∃ body, w.finish = body ++ w.finishMeta.write :=
  ⟨_, finish_eq w⟩

/-! ### arbitrary add sequences: the gate, then the format -/

/-- Whatever is offered to `mtbl_writer_add`, the file is the canonical file of the accepted entries -/
theorem W_refines_format_any (cfg : WCfg) (comp : Bytes → Bytes) (hc : cfg.comp = fun raw => some (comp raw))
    (pre : Bytes) (adds : List Entry) :
    pre ++ ((W.new cfg pre.length).addAll adds).2.finish =
      (canonFile cfg pre (acceptedOf none adds)).encode comp := by
  rw [C08_history_state]
  exact W_refines_format cfg comp hc pre _ (C08_accepted_sorted adds)

/-- **C10 for arbitrary add sequences**: refused adds leave no trace in the statistics -/
theorem C10_stats_any (cfg : WCfg) (comp : Bytes → Bytes) (hc : cfg.comp = fun raw => some (comp raw))
    (pre : Bytes) (adds : List Entry) :
    ((W.new cfg pre.length).addAll adds).2.finishMeta =
      (canonFile cfg pre (acceptedOf none adds)).recount comp ∧
    ((W.new cfg pre.length).addAll adds).2.finishMeta.countEntries = (acceptedOf none adds).length ∧
    ((W.new cfg pre.length).addAll adds).2.finishMeta.bytesKeys =
      ((acceptedOf none adds).map (·.key.length)).sum ∧
    ((W.new cfg pre.length).addAll adds).2.finishMeta.bytesValues =
      ((acceptedOf none adds).map (·.val.length)).sum := by
  rw [C08_history_state]
  have h := C10_stats cfg comp hc pre _ (C08_accepted_sorted adds)
  exact ⟨C10_meta cfg comp hc pre _ (C08_accepted_sorted adds), h.1, h.2.1, h.2.2.1⟩

/-- with a total compressor no assertion of the writer fires (from the gate theorems), so the bytes above are
    really written -/
theorem W_no_abort (cfg : WCfg) (comp : Bytes → Bytes) (hc : cfg.comp = fun raw => some (comp raw))
    (pre : Nat) (adds : List Entry) : ((W.new cfg pre).addAll adds).2.aborted = false :=
  C08_no_abort_history cfg pre adds (fun raw _ => by rw [hc]; rfl)

theorem canonFile_legal_any (cfg : WCfg) (comp : Bytes → Bytes) (pre : Bytes) (adds : List Entry)
    (hi : 1 ≤ cfg.interval)
    (hlen : ∀ e ∈ acceptedOf none adds, e.key.length < 2^32 ∧ e.val.length < 2^32)
    (hsize : ((canonFile cfg pre (acceptedOf none adds)).encode comp).length < 2^64) :
    (canonFile cfg pre (acceptedOf none adds)).legal comp = true :=
  canonFile_legal cfg comp pre _ hi (C08_accepted_sorted adds) hlen hsize

/-! ### non-vacuity -/

namespace WriterEx

def cfg : WCfg := { blockSize := 32, minBlockSize := 16, interval := 2 }

/-- seven entries: the empty key first, one entry (40-byte value) larger than the 32-byte block size -/
def es : List Entry :=
  [⟨[], [1]⟩, ⟨[1], [2, 3]⟩, ⟨[1, 2], []⟩, ⟨[1, 2, 3], List.replicate 40 7⟩, ⟨[2], [9]⟩, ⟨[2, 0], [9]⟩, ⟨[2, 1], [9]⟩]

/-- five blocks; the oversized entry sits alone in the third -/
example : (splitBlocks cfg [] es).map List.length = [2, 1, 1, 2, 1] := by decide +kernel

example : canonSeps (splitBlocks cfg [] es) = [[1], [1, 2], [1, 2, 3], [2, 0], [2, 1]] := by decide +kernel

set_option maxRecDepth 100000 in
example : [0xAA, 0xBB] ++ Writer.run cfg 2 es = (canonFile cfg [0xAA, 0xBB] es).encode id :=
  W_refines_format cfg id rfl [0xAA, 0xBB] es (by unfold StrictSorted; decide)

set_option maxRecDepth 100000 in
example : (canonFile cfg [0xAA, 0xBB] es).legal id = true := by decide +kernel

example : (canonFile cfg [0xAA, 0xBB] es).entries = es := by decide +kernel

/-- the same run through a (toy) compressor: `compression = 1`, every data block stored reversed -/
def cfgZ : WCfg := { cfg with compression := 1, comp := fun raw => some raw.reverse }

set_option maxRecDepth 100000 in
example : [0xAA, 0xBB] ++ Writer.run cfgZ 2 es = (canonFile cfgZ [0xAA, 0xBB] es).encode List.reverse ∧
    Writer.run cfgZ 2 es ≠ Writer.run cfg 2 es :=
  ⟨W_refines_format cfgZ List.reverse rfl [0xAA, 0xBB] es (by unfold StrictSorted; decide), by decide +kernel⟩

/-- with the adds out of order: the refused ones leave no trace -/
example : Writer.run cfg 0 ([⟨[], [1]⟩, ⟨[], [5]⟩, ⟨[1], [2, 3]⟩, ⟨[0], [4]⟩] ++ es.drop 2) = Writer.run cfg 0 es := by
  have h : acceptedOf none ([⟨[], [1]⟩, ⟨[], [5]⟩, ⟨[1], [2, 3]⟩, ⟨[0], [4]⟩] ++ es.drop 2) = es := by decide
  unfold Writer.run
  rw [C08_history_state, h]

end WriterEx

end Mtbl
