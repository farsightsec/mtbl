import MtblModel.Merger
import MtblProofs.HeapProofs
import MtblProofs.OrderProofs
/-
  Proofs about the model of mtbl/merger.c (`MtblModel/Merger.lean`), property C04:
  a merger yields every distinct key once, in ascending order, the value being the fold of the merge
  function over all values the sources hold for that key.
-/
namespace Mtbl

/-- entries a source will still deliver -/
def Src.remaining (s : Src) : List Entry :=
  if s.cur.stuck then [] else (s.es.drop s.cur.pos).takeWhile fun e => inBound s.kind e.key

/-- everything the merger can still output: live heap heads plus what their sources still hold -/
def pool (m : MIter) : List Entry :=
  m.heap.toList.flatMap fun h =>
    if h.finished then [] else { key := h.key, val := h.val } :: (m.srcs[h.src]!).remaining

/-- left fold of the merge function over a non-empty list of values; none if the callback fails -/
def foldl1? (f : Bytes → Bytes → Bytes → Option Bytes) (k : Bytes) : List Bytes → Option Bytes
  | [] => none
  | v :: vs => vs.foldlM (fun acc x => f k acc x) v

namespace MergerProofs

variable (c : MCfg) (hF2 : c.fixF2 = true) (htot : ∀ a b, hle c a b = true ∨ hle c b a = true)
  (htrans : ∀ a b d, hle c a b = true → hle c b d = true → hle c a d = true)

theorem bcmp_lt_of_le_of_ne {a b : Bytes} (h1 : bcmp a b ≠ .gt) (h2 : bcmp a b ≠ .eq) :
    bcmp a b = .lt := by
  cases h : bcmp a b <;> simp_all

theorem hcmp_congr (c : MCfg) {a a' b b' : HEnt} (h1 : a.key = a'.key) (h2 : a.val = a'.val)
    (h3 : b.key = b'.key) (h4 : b.val = b'.val) : hcmp c a b = hcmp c a' b' := by
  unfold hcmp; rw [h1, h2, h3, h4]

theorem hle_congr (c : MCfg) {a a' b b' : HEnt} (h1 : a.key = a'.key) (h2 : a.val = a'.val)
    (h3 : b.key = b'.key) (h4 : b.val = b'.val) : hle c a b = hle c a' b' := by
  unfold hle; rw [hcmp_congr c h1 h2 h3 h4]

theorem hle_key {c : MCfg} {a b : HEnt} (h : hle c a b = true) : bcmp a.key b.key ≠ .gt := by
  intro hg
  unfold hle hcmp at h
  rw [hg] at h
  simp at h

theorem next_some {s s' : Src} {e : Entry} (h : s.next = (some e, s')) :
    s.remaining = e :: s'.remaining ∧ s'.es = s.es ∧ srcLeft s' + 1 = srcLeft s := by
  unfold Src.next specNext at h
  unfold Src.remaining srcLeft
  split at h
  · simp at h
  · rename_i hst
    split at h
    · rename_i e' he
      split at h
      · rename_i hin
        simp only [Prod.mk.injEq, Option.some.injEq] at h
        obtain ⟨h1, h2⟩ := h
        subst h1; subst h2
        have hlt : s.cur.pos < s.es.length := by
          have := List.getElem?_eq_some_iff.mp he; exact this.1
        have hd : s.es.drop s.cur.pos = e' :: s.es.drop (s.cur.pos + 1) := by
          rw [List.drop_eq_getElem_cons hlt]
          have := List.getElem?_eq_some_iff.mp he
          rw [this.2]
        simp [hst, hd, hin]
        omega
      · simp at h
    · simp at h

theorem next_none {s s' : Src} (h : s.next = (none, s')) :
    s.remaining = [] ∧ s'.remaining = [] ∧ s'.es = s.es ∧ srcLeft s' = srcLeft s := by
  unfold Src.next specNext at h
  unfold Src.remaining srcLeft
  split at h
  · rename_i hst
    simp only [Prod.mk.injEq, true_and] at h
    subst h
    simp [hst]
  · rename_i hst
    split at h
    · rename_i e' he
      split at h
      · simp at h
      · rename_i hin
        simp only [Prod.mk.injEq, true_and] at h
        subst h
        have hlt : s.cur.pos < s.es.length := (List.getElem?_eq_some_iff.mp he).1
        have hd : s.es.drop s.cur.pos = e' :: s.es.drop (s.cur.pos + 1) := by
          rw [List.drop_eq_getElem_cons hlt, (List.getElem?_eq_some_iff.mp he).2]
        simp [hst, hd, hin]
    · rename_i he
      simp only [Prod.mk.injEq, true_and] at h
      subst h
      have : s.es.length ≤ s.cur.pos := by simpa using he
      simp [hst, List.drop_eq_nil_of_le this]

theorem remaining_pairwise {r : Entry → Entry → Prop} {s : Src} (h : s.es.Pairwise r) :
    s.remaining.Pairwise r := by
  unfold Src.remaining
  split
  · exact List.Pairwise.nil
  · exact (h.sublist (List.drop_sublist _ _)).sublist (List.takeWhile_sublist _)

theorem remaining_sorted {s : Src} (h : Sorted s.es) : Sorted s.remaining := remaining_pairwise h

theorem next_some_le {r : Entry → Entry → Prop} {s s' : Src} {x : Entry} (hs : s.es.Pairwise r)
    (h : s.next = (some x, s')) : ∀ y ∈ s'.remaining, r x y :=
  (List.pairwise_cons.mp ((next_some h).1 ▸ remaining_pairwise hs)).1

theorem remaining_length_le (s : Src) : s.remaining.length ≤ s.es.length := by
  unfold Src.remaining
  split
  · simp
  · exact Nat.le_trans (List.takeWhile_sublist _).length_le (by simp)

theorem remaining_iter_start (es : List Entry) :
    Src.remaining { es := es, kind := .iter, cur := specSeek es [] } = es := by
  simp only [Src.remaining, specSeek, lowerBound_empty_key, inBound, List.drop_zero]
  simp only [Bool.false_eq_true, if_false]
  induction es with
  | nil => rfl
  | cons e t ih => simp [ih]


/-- what the head `h` stands for: itself plus what its source still holds -/
def contrib (srcs : Array Src) (h : HEnt) : List Entry :=
  if h.finished then [] else { key := h.key, val := h.val } :: (srcs[h.src]!).remaining

/-- `pool` with the sources and the list of heads as arguments (`pool_eq`), so that both can vary separately -/
def poolL (srcs : Array Src) (hs : List HEnt) : List Entry := hs.flatMap (contrib srcs)

theorem pool_eq (m : MIter) : pool m = poolL m.srcs m.heap.toList := rfl

theorem poolL_perm (srcs : Array Src) {hs hs' : List HEnt} (h : hs.Perm hs') :
    (poolL srcs hs).Perm (poolL srcs hs') := List.Perm.flatMap_right _ h

theorem poolL_cons (srcs : Array Src) (h : HEnt) (hs : List HEnt) :
    poolL srcs (h :: hs) = contrib srcs h ++ poolL srcs hs := by
  simp [poolL]

theorem contrib_live {srcs : Array Src} {h : HEnt} (hf : h.finished = false) :
    contrib srcs h = { key := h.key, val := h.val } :: (srcs[h.src]!).remaining :=
  if_neg (by rw [hf]; exact Bool.false_ne_true)

theorem contrib_fin {srcs : Array Src} {h : HEnt} (hf : h.finished = true) : contrib srcs h = [] :=
  if_pos hf

theorem contrib_set_ne (srcs : Array Src) (i : Nat) (s : Src) (h : HEnt) (hne : h.src ≠ i) :
    contrib (srcs.setIfInBounds i s) h = contrib srcs h := by
  unfold contrib
  rw [Heap.get_set_ne srcs i h.src s hne]

theorem poolL_set_ne (srcs : Array Src) (i : Nat) (s : Src) (hs : List HEnt)
    (hne : ∀ h ∈ hs, h.src ≠ i) : poolL (srcs.setIfInBounds i s) hs = poolL srcs hs := by
  induction hs with
  | nil => rfl
  | cons h hs ih =>
    rw [poolL_cons, poolL_cons, contrib_set_ne srcs i s h (hne h (by simp)),
      ih (fun h' hh' => hne h' (by simp [hh']))]

theorem mem_poolL {srcs : Array Src} {hs : List HEnt} {x : Entry} (hx : x ∈ poolL srcs hs) :
    ∃ h ∈ hs, h.finished = false ∧
      (x = { key := h.key, val := h.val } ∨ x ∈ (srcs[h.src]!).remaining) := by
  unfold poolL at hx
  rw [List.mem_flatMap] at hx
  obtain ⟨h, hh, hxc⟩ := hx
  refine ⟨h, hh, ?_⟩
  unfold contrib at hxc
  split at hxc
  · simp at hxc
  · rename_i hf
    simp only [List.mem_cons] at hxc
    exact ⟨by simpa using hf, hxc⟩

theorem heap_head {heap : Array HEnt} {e : HEnt} (h : heap[0]? = some e) :
    heap.toList = e :: heap.toList.tail ∧ heap[0]! = e ∧ 0 < heap.size := by
  obtain ⟨l⟩ := heap
  cases l with
  | nil => simp at h
  | cons a l => simp at h; subst h; simp

theorem mem_toList_getElem! {α : Type} [Inhabited α] {a : Array α} {x : α} (h : x ∈ a.toList) :
    ∃ i, i < a.size ∧ a[i]! = x := by
  obtain ⟨i, hi, he⟩ := List.mem_iff_getElem.mp h
  have hi' : i < a.size := by simpa using hi
  exact ⟨i, hi', by rw [getElem!_pos a i hi']; simpa using he⟩

theorem isHeap_congr (c : MCfg) {v v' : Array HEnt} (hs : v'.size = v.size)
    (hk : ∀ j : Nat, (v'[j]! : HEnt).key = (v[j]! : HEnt).key ∧ (v'[j]! : HEnt).val = (v[j]! : HEnt).val)
    (hv : Heap.IsHeap (hle c) v) : Heap.IsHeap (hle c) v' := by
  intro i h0 hi
  rw [hle_congr c (hk _).1 (hk _).2 (hk _).1 (hk _).2]
  exact hv i h0 (by omega)

theorem sum_map_set {α : Type} (f : α → Nat) (l : List α) (i : Nat) (x : α) (hi : i < l.length) :
    ((l.set i x).map f).sum + f l[i] = (l.map f).sum + f x := by
  induction l generalizing i with
  | nil => simp at hi
  | cons a l ih =>
    cases i with
    | zero => simp; omega
    | succ i =>
      simp at hi
      have := ih i hi
      simp only [List.set_cons_succ, List.map_cons, List.sum_cons, List.getElem_cons_succ]
      omega

def nfin (heap : Array HEnt) : Nat :=
  match heap[0]? with
  | some e => if e.finished then 1 else 0
  | none => 0

/-- the termination measure of the `for (;;)` loop.  An iteration consumes a source entry, or marks the root finished
    (hence `- nfin`), or pops a finished root (`2 * size`: one unit pays for `nfin` going back to 0).  `totalLeft`, the
    fuel `mergerNext` passes, is above it. -/
def mu (srcs : Array Src) (heap : Array HEnt) : Nat :=
  (srcs.toList.map srcLeft).sum + 2 * heap.size + 1 - nfin heap

theorem nfin_le (heap : Array HEnt) : nfin heap ≤ 1 := by
  unfold nfin; split
  · split <;> omega
  · omega

theorem mu_lt_totalLeft (m : MIter) : mu m.srcs m.heap < totalLeft m := by
  unfold mu totalLeft; omega

theorem sum_srcLeft_set (srcs : Array Src) (i : Nat) (s : Src) (hi : i < srcs.size) :
    ((srcs.setIfInBounds i s).toList.map srcLeft).sum + srcLeft srcs[i]! =
      (srcs.toList.map srcLeft).sum + srcLeft s := by
  rw [Array.toList_setIfInBounds]
  have := sum_map_set srcLeft srcs.toList i s (by simpa using hi)
  rw [getElem!_pos srcs i hi]
  simpa using this

/-- an entry seen as a heap entry (only key and value matter for `hcmp`) -/
def _root_.Mtbl.HEnt.ofEntry (e : Entry) : HEnt := { src := 0, key := e.key, val := e.val }

/-- the (key, dupsort) preorder on entries: `_mtbl_merger_compare(a, b) <= 0` -/
def _root_.Mtbl.ele (c : MCfg) (a b : Entry) : Bool := hle c (.ofEntry a) (.ofEntry b)

/-- sorted by (key, dupsort) -/
def _root_.Mtbl.DSorted (c : MCfg) (es : List Entry) : Prop :=
  es.Pairwise fun a b => ele c a b = true

/-- every source is sorted by (key, dupsort) -/
def _root_.Mtbl.DSrcs (c : MCfg) (srcs : Array Src) : Prop :=
  ∀ i, i < srcs.size → DSorted c (srcs[i]!).es

theorem forall_set_es {P : List Entry → Prop} {srcs : Array Src} {i : Nat} {s' : Src} (hi : i < srcs.size)
    (hes : s'.es = (srcs[i]!).es) :
    (∀ j, j < (srcs.setIfInBounds i s').size → P ((srcs.setIfInBounds i s')[j]!).es) ↔
      ∀ j, j < srcs.size → P (srcs[j]!).es := by
  have key : ∀ j : Nat, ((srcs.setIfInBounds i s')[j]!).es = (srcs[j]!).es := by
    intro j
    by_cases hji : j = i
    · rw [hji, Heap.get_set_eq srcs i s' hi, hes]
    · rw [Heap.get_set_ne srcs i j s' hji]
  simp only [key, Array.size_setIfInBounds]

theorem DSrcs_set (c : MCfg) {srcs : Array Src} {i : Nat} {s' : Src} (hi : i < srcs.size)
    (hes : s'.es = (srcs[i]!).es) : DSrcs c (srcs.setIfInBounds i s') ↔ DSrcs c srcs :=
  forall_set_es hi hes

structure _root_.Mtbl.HInv (c : MCfg) (srcs : Array Src) (heap : Array HEnt) : Prop where
  /-- the heap property w.r.t. `_mtbl_merger_compare` -/
  isHeap : Heap.IsHeap (hle c) heap
  /-- each source occurs at most once in the heap -/
  nodup : (heap.toList.map (·.src)).Nodup
  /-- and is a valid source index -/
  inb : ∀ h ∈ heap.toList, h.src < srcs.size
  /-- finished entries can occur only at the root -/
  finTail : ∀ h ∈ heap.toList.tail, h.finished = false
  /-- every source is sorted by key -/
  sorted : ∀ i, i < srcs.size → Sorted (srcs[i]!).es
  /-- a live head is ≤ everything its source still holds -/
  headLe : ∀ h ∈ heap.toList, h.finished = false →
    ∀ e ∈ (srcs[h.src]!).remaining, bcmp h.key e.key ≠ .gt
  /-- if the sources are sorted by (key, dupsort): a live head is ≤ everything its source still
      holds, also w.r.t. `_mtbl_merger_compare` -/
  headLeD : DSrcs c srcs → ∀ h ∈ heap.toList, h.finished = false →
    ∀ e ∈ (srcs[h.src]!).remaining, hle c h (.ofEntry e) = true

/-- what `HInv` says of the heap as a multiset of heads: all of it but the heap shape and `finTail` -/
structure HL (c : MCfg) (srcs : Array Src) (hs : List HEnt) : Prop where
  nodup : (hs.map (·.src)).Nodup
  inb : ∀ h ∈ hs, h.src < srcs.size
  sorted : ∀ i, i < srcs.size → Sorted (srcs[i]!).es
  headLe : ∀ h ∈ hs, h.finished = false → ∀ e ∈ (srcs[h.src]!).remaining, bcmp h.key e.key ≠ .gt
  headLeD : DSrcs c srcs → ∀ h ∈ hs, h.finished = false →
    ∀ e ∈ (srcs[h.src]!).remaining, hle c h (.ofEntry e) = true

section HL
variable {c : MCfg} {srcs : Array Src} {heap : Array HEnt} {hs hs' tl : List HEnt} {e : HEnt}

theorem _root_.Mtbl.HInv.hl (hi : HInv c srcs heap) : HL c srcs heap.toList :=
  ⟨hi.nodup, hi.inb, hi.sorted, hi.headLe, hi.headLeD⟩

theorem HL.hinv (h : HL c srcs heap.toList) (hh : Heap.IsHeap (hle c) heap)
    (hf : ∀ x ∈ heap.toList.tail, x.finished = false) : HInv c srcs heap :=
  ⟨hh, h.nodup, h.inb, hf, h.sorted, h.headLe, h.headLeD⟩

theorem HL.perm (h : HL c srcs hs) (hp : hs'.Perm hs) : HL c srcs hs' :=
  ⟨(hp.map _).nodup_iff.mpr h.nodup, fun x hx => h.inb x (hp.mem_iff.mp hx), h.sorted,
    fun x hx => h.headLe x (hp.mem_iff.mp hx), fun hd x hx => h.headLeD hd x (hp.mem_iff.mp hx)⟩

theorem HL.tail (h : HL c srcs (e :: tl)) : HL c srcs tl :=
  ⟨(List.nodup_cons.mp h.nodup).2, fun x hx => h.inb x (List.mem_cons_of_mem _ hx), h.sorted,
    fun x hx => h.headLe x (List.mem_cons_of_mem _ hx), fun hd x hx => h.headLeD hd x (List.mem_cons_of_mem _ hx)⟩

theorem HL.head_notin (h : HL c srcs (e :: tl)) : ∀ x ∈ tl, x.src ≠ e.src :=
  fun _ hx heq => (List.nodup_cons.mp h.nodup).1 (List.mem_map.mpr ⟨_, hx, heq⟩)

theorem HL.set (h : HL c srcs hs) {i : Nat} {s' : Src} (hi : i < srcs.size) (hni : ∀ x ∈ hs, x.src ≠ i)
    (hes : s'.es = (srcs[i]!).es) : HL c (srcs.setIfInBounds i s') hs := by
  refine ⟨h.nodup, fun x hx => Array.size_setIfInBounds.symm ▸ h.inb x hx, (forall_set_es hi hes).mpr h.sorted,
    fun x hx => ?_, fun hd x hx => ?_⟩
  · rw [Heap.get_set_ne srcs i x.src s' (hni x hx)]
    exact h.headLe x hx
  · rw [Heap.get_set_ne srcs i x.src s' (hni x hx)]
    exact h.headLeD ((DSrcs_set c hi hes).mp hd) x hx

theorem HL.refill (h : HL c srcs tl) {i : Nat} {s' : Src} (hi : i < srcs.size) (hni : ∀ x ∈ tl, x.src ≠ i)
    (hes : s'.es = (srcs[i]!).es) (new : HEnt) (hsrc : new.src = i)
    (hle1 : new.finished = false → ∀ y ∈ s'.remaining, bcmp new.key y.key ≠ .gt)
    (hle2 : DSrcs c srcs → new.finished = false → ∀ y ∈ s'.remaining, hle c new (.ofEntry y) = true) :
    HL c (srcs.setIfInBounds i s') (new :: tl) := by
  have h' := h.set hi hni hes
  have hs' : (srcs.setIfInBounds i s')[new.src]! = s' := by rw [hsrc, Heap.get_set_eq srcs i s' hi]
  refine ⟨List.nodup_cons.mpr ⟨fun hm => ?_, h'.nodup⟩, ?_, h'.sorted, ?_, fun hd => ?_⟩
  · obtain ⟨x, hx, hxs⟩ := List.mem_map.mp hm
    exact hni x hx (hxs.trans hsrc)
  · intro x hx
    rcases List.mem_cons.mp hx with rfl | hx
    · rw [hsrc, Array.size_setIfInBounds]; exact hi
    · exact h'.inb x hx
  · intro x hx
    rcases List.mem_cons.mp hx with rfl | hx
    · rw [hs']; exact hle1
    · exact h'.headLe x hx
  · intro x hx
    rcases List.mem_cons.mp hx with rfl | hx
    · rw [hs']; exact hle2 ((DSrcs_set c hi hes).mp hd)
    · exact h'.headLeD hd x hx

theorem poolL_refill (hi : i < srcs.size) (hni : ∀ x ∈ tl, x.src ≠ i) (s' : Src) (new : HEnt) (hsrc : new.src = i) :
    poolL (srcs.setIfInBounds i s') (new :: tl) =
      (if new.finished then [] else { key := new.key, val := new.val } :: s'.remaining) ++ poolL srcs tl := by
  rw [poolL_cons, poolL_set_ne srcs i s' tl hni, contrib, hsrc, Heap.get_set_eq srcs i s' hi]

end HL

section
include htot htrans

theorem root_le_all
    {heap : Array HEnt} (hh : Heap.IsHeap (hle c) heap) {e : HEnt} (h0 : heap[0]? = some e) :
    ∀ h ∈ heap.toList, hle c e h = true := by
  intro h hm
  obtain ⟨i, hi, he⟩ := mem_toList_getElem! hm
  have := Heap.root_min (hle c) htot htrans heap hh i hi
  rw [(heap_head h0).2.1, he] at this
  exact this

theorem pool_min
    {srcs : Array Src} {heap : Array HEnt} (hi : HInv c srcs heap) {e : HEnt}
    (h0 : heap[0]? = some e) :
    ∀ x ∈ poolL srcs heap.toList, bcmp e.key x.key ≠ .gt := by
  intro x hx
  obtain ⟨h, hh, hf, hx⟩ := mem_poolL hx
  have h1 := hle_key (root_le_all c htot htrans hi.isHeap h0 h hh)
  rcases hx with rfl | hx
  · exact h1
  · exact bcmp_le_trans h1 (hi.headLe h hh hf x hx)

theorem pool_min_D
    {srcs : Array Src} {heap : Array HEnt} (hi : HInv c srcs heap) (hd : DSrcs c srcs) {e : HEnt}
    (h0 : heap[0]? = some e) :
    ∀ x ∈ poolL srcs heap.toList, hle c e (.ofEntry x) = true := by
  intro x hx
  obtain ⟨h, hh, hf, hx⟩ := mem_poolL hx
  have h1 := root_le_all c htot htrans hi.isHeap h0 h hh
  rcases hx with rfl | hx
  · exact (hle_congr c rfl rfl rfl rfl).trans h1
  · exact htrans _ _ _ h1 (hi.headLeD hd h hh hf x hx)

end

/-- loop invariant of `merger_iter_next` (also holds between calls) -/
structure _root_.Mtbl.LInv (c : MCfg) (m : MIter) : Prop where
  hinv : HInv c m.srcs m.heap
  /-- `finished` is only set when the heap has run empty -/
  finEmpty : m.finished = true → m.heap.size = 0

/-- invariant between calls of `merger_iter_next` -/
structure _root_.Mtbl.MInv (c : MCfg) (m : MIter) : Prop extends LInv c m where
  pending : m.pending = false

theorem pool_of_empty {m : MIter} (h : m.heap[0]? = none) : pool m = [] := by
  have : m.heap.size = 0 := by simpa using h
  have : m.heap = #[] := Array.eq_empty_of_size_eq_zero this
  simp [pool, this]

theorem afterFill_fill_some (c : MCfg) (m : MIter) (e : HEnt) {x : Entry} {s' : Src}
    (h : (m.srcs[e.src]!).next = (some x, s')) :
    afterFill c (fill m e.src e) = { m with
      srcs := m.srcs.setIfInBounds e.src s'
      heap := Heap.replace (hle c) m.heap
        { src := e.src, key := x.key, val := x.val, finished := false } } := by
  simp [afterFill, fill, h]

theorem afterFill_fill_none (c : MCfg) (m : MIter) (e : HEnt) {s' : Src}
    (h : (m.srcs[e.src]!).next = (none, s')) :
    afterFill c (fill m e.src e) = { m with
      srcs := m.srcs.setIfInBounds e.src s'
      heap := m.heap.setIfInBounds 0 { e with finished := true } } := by
  simp [afterFill, fill, h]

/-- `m'` is `m` after its live root `e` was consumed -/
structure Adv (m : MIter) (e : HEnt) (m' : MIter) : Prop where
  linv : LInv c m'
  pool : (pool m).Perm ({ key := e.key, val := e.val } :: pool m')
  less : mu m'.srcs m'.heap < mu m.srcs m.heap
  curKey : m'.curKey = m.curKey
  curVal : m'.curVal = m.curVal
  pending : m'.pending = m.pending
  finished : m'.finished = m.finished
  dsrcs : DSrcs c m.srcs → DSrcs c m'.srcs

section
include htot htrans

/-- consuming the (live) root: `entry_fill` followed by `heap_replace` / marking it finished -/
theorem adv
    {m : MIter} (hi : LInv c m) {e : HEnt} (h0 : m.heap[0]? = some e) (hf : e.finished = false) :
    ∃ m', afterFill c (fill m e.src e) = m' ∧ Adv c m e m' := by
  obtain ⟨hl, hg, hs⟩ := heap_head h0
  have hL : HL c m.srcs (e :: m.heap.toList.tail) := hl ▸ hi.hinv.hl
  have hne := hL.head_notin
  have hein := hL.inb e List.mem_cons_self
  have hfin : ¬ m.finished = true := fun hm => absurd hs (by rw [hi.finEmpty hm]; exact Nat.lt_irrefl 0)
  have hpool : pool m = { key := e.key, val := e.val } ::
      ((m.srcs[e.src]!).remaining ++ poolL m.srcs m.heap.toList.tail) := by
    rw [pool_eq, hl, poolL_cons, contrib_live hf]; rfl
  have hnf : nfin m.heap = 0 := by simp only [nfin, h0, hf]; rfl
  have hsum := fun s' => sum_srcLeft_set m.srcs e.src s' hein
  cases hn : (m.srcs[e.src]!).next with
  | mk o s' =>
    cases o with
    | none =>
      obtain ⟨hrem, _, hes, hleft⟩ := next_none hn
      have hnl : (m.heap.setIfInBounds 0 { e with finished := true }).toList =
          { e with finished := true } :: m.heap.toList.tail := by
        rw [Array.toList_setIfInBounds, hl]; rfl
      refine ⟨_, afterFill_fill_none c m e hn,
        { linv := ⟨?_, fun hm => absurd hm hfin⟩, pool := ?_, less := ?_, curKey := rfl, curVal := rfl,
          pending := rfl, finished := rfl, dsrcs := (DSrcs_set c hein hes).mpr }⟩
      · refine HL.hinv (hnl ▸ hL.tail.refill hein hne hes { e with finished := true } rfl (fun h => Bool.noConfusion h)
          (fun _ h => Bool.noConfusion h)) ?_ fun x hx => hi.hinv.finTail x (by rw [hnl] at hx; exact hx)
        refine isHeap_congr c Array.size_setIfInBounds (fun j => ?_) hi.hinv.isHeap
        by_cases hj : j = 0
        · rw [hj, Heap.get_set_eq m.heap 0 _ hs, hg]; exact ⟨rfl, rfl⟩
        · rw [Heap.get_set_ne m.heap 0 j _ hj]; exact ⟨rfl, rfl⟩
      · rw [hpool, hrem, pool_eq]
        simp only
        rw [hnl, poolL_refill hein hne s' { e with finished := true } rfl]
        exact List.Perm.refl _
      · have h3 : nfin (m.heap.setIfInBounds 0 { e with finished := true }) = 1 := by
          simp only [nfin, Array.getElem?_setIfInBounds_self_of_lt hs]; rfl
        have := hsum s'
        simp only [mu, Array.size_setIfInBounds]
        omega
    | some x =>
      obtain ⟨hrem, hes, hleft⟩ := next_some hn
      have hp := Heap.replace_perm_tail (hle c) m.heap
        { src := e.src, key := x.key, val := x.val, finished := false } hs
      refine ⟨_, afterFill_fill_some c m e hn,
        { linv := ⟨?_, fun hm => absurd hm hfin⟩, pool := ?_, less := ?_, curKey := rfl, curVal := rfl,
          pending := rfl, finished := rfl, dsrcs := (DSrcs_set c hein hes).mpr }⟩
      · refine HL.hinv ((hL.tail.refill hein hne hes
          { src := e.src, key := x.key, val := x.val, finished := false } rfl
          (fun _ => next_some_le (hL.sorted _ hein) hn)
          (fun hd _ => next_some_le (hd _ hein) hn)).perm hp)
          (Heap.replace_isHeap (hle c) htot htrans _ _ hi.hinv.isHeap) fun y hy => ?_
        rcases List.mem_cons.mp (hp.mem_iff.mp (List.mem_of_mem_tail hy)) with rfl | hy
        · rfl
        · exact hi.hinv.finTail y hy
      · rw [hpool, hrem, pool_eq]
        refine List.Perm.cons _ (List.Perm.trans (List.Perm.of_eq ?_) (poolL_perm _ hp).symm)
        exact (poolL_refill hein hne s' { src := e.src, key := x.key, val := x.val, finished := false } rfl).symm
      · have h1 := nfin_le (Heap.replace (hle c) m.heap
          { src := e.src, key := x.key, val := x.val, finished := false })
        have := hsum s'
        simp only [mu, Heap.replace_size]
        omega

theorem linv_pop
    {m : MIter} (hi : LInv c m) {e : HEnt} (h0 : m.heap[0]? = some e) (hf : e.finished = true) :
    LInv c { m with heap := Heap.pop (hle c) m.heap } ∧
    (pool m).Perm (pool { m with heap := Heap.pop (hle c) m.heap }) ∧
    mu m.srcs (Heap.pop (hle c) m.heap) < mu m.srcs m.heap := by
  obtain ⟨hl, hg, hs⟩ := heap_head h0
  have hp := Heap.pop_perm_tail (hle c) m.heap hs
  have hL : HL c m.srcs (e :: m.heap.toList.tail) := hl ▸ hi.hinv.hl
  refine ⟨⟨(hL.tail.perm hp).hinv (Heap.pop_isHeap (hle c) htot htrans _ hi.hinv.isHeap) fun x hx =>
      hi.hinv.finTail x (hp.mem_iff.mp (List.mem_of_mem_tail hx)),
    fun hm => absurd hs (by rw [hi.finEmpty hm]; exact Nat.lt_irrefl 0)⟩, ?_, ?_⟩
  · rw [pool_eq, hl, poolL_cons, contrib_fin hf]
    exact (poolL_perm _ hp).symm
  · have h1 := nfin_le (Heap.pop (hle c) m.heap)
    have h2 : nfin m.heap = 1 := by simp only [nfin, h0, hf]; rfl
    simp only [mu, Heap.pop_size]
    omega

end

theorem loop_empty (c : MCfg) (m : MIter) (fuel : Nat) (h0 : m.heap[0]? = none) :
    mergerNextLoop c m (fuel + 1) = some { m with finished := true } := by
  simp [mergerNextLoop, h0]

theorem loop_fin (c : MCfg) (m : MIter) (fuel : Nat) {e : HEnt} (h0 : m.heap[0]? = some e)
    (hf : e.finished = true) :
    mergerNextLoop c m (fuel + 1) =
      mergerNextLoop c { m with heap := Heap.pop (hle c) m.heap } fuel := by
  simp [mergerNextLoop, h0, hf]

theorem loop_take (c : MCfg) (hF2 : c.fixF2 = true) (m : MIter) (fuel : Nat) {e : HEnt}
    (h0 : m.heap[0]? = some e) (hf : e.finished = false) (hp : m.pending = false) :
    mergerNextLoop c m (fuel + 1) =
      mergerNextLoop c (afterFill c
        (fill { m with curKey := e.key, curVal := e.val, pending := true } e.src e)) fuel := by
  simp [mergerNextLoop, h0, hf, assembling, hF2, hp]

theorem loop_ret_nomerge (c : MCfg) (hF2 : c.fixF2 = true) (m : MIter) (fuel : Nat) {e : HEnt}
    (h0 : m.heap[0]? = some e) (hf : e.finished = false) (hp : m.pending = true)
    (hm : c.merge = none) :
    mergerNextLoop c m (fuel + 1) = some m := by
  simp [mergerNextLoop, h0, hf, assembling, hF2, hp, hm]

theorem loop_merge_ne (c : MCfg) (hF2 : c.fixF2 = true) (m : MIter) (fuel : Nat) {e : HEnt}
    (h0 : m.heap[0]? = some e) (hf : e.finished = false) (hp : m.pending = true)
    {f : Bytes → Bytes → Bytes → Option Bytes} (hm : c.merge = some f)
    (hne : bcmp m.curKey e.key ≠ .eq) :
    mergerNextLoop c m (fuel + 1) = some m := by
  simp [mergerNextLoop, h0, hf, assembling, hF2, hp, hm, hne]

theorem loop_merge_fail (c : MCfg) (hF2 : c.fixF2 = true) (m : MIter) (fuel : Nat) {e : HEnt}
    (h0 : m.heap[0]? = some e) (hf : e.finished = false) (hp : m.pending = true)
    {f : Bytes → Bytes → Bytes → Option Bytes} (hm : c.merge = some f)
    (heq : bcmp m.curKey e.key = .eq) (hfail : f m.curKey m.curVal e.val = none) :
    mergerNextLoop c m (fuel + 1) = none := by
  simp [mergerNextLoop, h0, hf, assembling, hF2, hp, hm, heq, hfail]

theorem loop_merge_ok (c : MCfg) (hF2 : c.fixF2 = true) (m : MIter) (fuel : Nat) {e : HEnt}
    (h0 : m.heap[0]? = some e) (hf : e.finished = false) (hp : m.pending = true)
    {f : Bytes → Bytes → Bytes → Option Bytes} (hm : c.merge = some f)
    (heq : bcmp m.curKey e.key = .eq) {mv : Bytes} (hok : f m.curKey m.curVal e.val = some mv) :
    mergerNextLoop c m (fuel + 1) =
      mergerNextLoop c (afterFill c (fill { m with curVal := mv } e.src e)) fuel := by
  simp [mergerNextLoop, h0, hf, assembling, hF2, hp, hm, heq, hok]

theorem mergerNext_unfold (c : MCfg) (hF2 : c.fixF2 = true) (m : MIter) (hfin : m.finished = false) :
    mergerNext c m =
      match mergerNextLoop c { m with curKey := [], curVal := [], pending := false }
        (totalLeft { m with curKey := [], curVal := [], pending := false }) with
      | none => (.fail, { m with curKey := [], curVal := [], pending := false })
      | some m1 =>
        if m1.pending then (.ok m1.curKey m1.curVal, { m1 with pending := false })
        else (.fail, m1) := by
  unfold mergerNext
  rw [if_neg (by simp [hfin])]
  simp only [hF2, ↓reduceIte]
  rfl

/-- outcome `r` of assembling key `k` from value `v` out of the multiset `P`: a group of `P`'s entries of key `k` is folded
    into `v` and the rest of `P` is above `k`; or the callback failed after a prefix of the group was folded -/
def Assembled (f : Bytes → Bytes → Bytes → Option Bytes) (k v : Bytes) (P : List Entry) (r : Option MIter) : Prop :=
  (∃ m1 grp, r = some m1 ∧ LInv c m1 ∧ m1.pending = true ∧ m1.curKey = k ∧ (∀ x ∈ grp, x.key = k) ∧
    P.Perm (grp ++ pool m1) ∧ (∀ x ∈ pool m1, bcmp k x.key = .lt) ∧
    (grp.map (·.val)).foldlM (fun acc x => f k acc x) v = some m1.curVal) ∨
  (r = none ∧ ∃ (pre : List Entry) (b : Entry) (rest : List Entry) (a' : Bytes),
    (∀ x ∈ pre, x.key = k) ∧ b.key = k ∧ P.Perm (pre ++ b :: rest) ∧
    (pre.map (·.val)).foldlM (fun acc x => f k acc x) v = some a' ∧ f k a' b.val = none)

variable {c} in
theorem Assembled.perm {f : Bytes → Bytes → Bytes → Option Bytes} {k v : Bytes} {P P' : List Entry}
    {r : Option MIter} (h : Assembled c f k v P r) (hp : P'.Perm P) : Assembled c f k v P' r := by
  rcases h with ⟨m1, grp, hr, hl, hpend, hkey, hgrp, hperm, hrest⟩ | ⟨h1, pre, b, rest, a', hpre, hb, hperm, hfold⟩
  · exact .inl ⟨m1, grp, hr, hl, hpend, hkey, hgrp, hp.trans hperm, hrest⟩
  · exact .inr ⟨h1, pre, b, rest, a', hpre, hb, hp.trans hperm, hfold⟩

variable {c} in
theorem Assembled.cons {f : Bytes → Bytes → Bytes → Option Bytes} {k v mv : Bytes} {P : List Entry}
    {r : Option MIter} {e : Entry} (hk : e.key = k) (hf : f k v e.val = some mv)
    (h : Assembled c f k mv P r) : Assembled c f k v (e :: P) r := by
  have hfold : ∀ (l : List Entry) (w : Bytes), (l.map (·.val)).foldlM (fun acc x => f k acc x) mv = some w →
      ((e :: l).map (·.val)).foldlM (fun acc x => f k acc x) v = some w := fun l w hw => by
    rw [List.map_cons, List.foldlM_cons, hf]
    exact hw
  rcases h with ⟨m1, grp, g1, g2, g3, g4, g5, g6, g7, g8⟩ | ⟨h1, pre, b, rest, a', g1, g2, g3, g4, g5⟩
  · exact .inl ⟨m1, e :: grp, g1, g2, g3, g4, List.forall_mem_cons.mpr ⟨hk, g5⟩, g6.cons e, g7, hfold grp _ g8⟩
  · exact .inr ⟨h1, e :: pre, b, rest, a', List.forall_mem_cons.mpr ⟨hk, g1⟩, g2, g3.cons e, hfold pre _ g4, g5⟩

section
include hF2 htot htrans

/-- phase A (nothing assembled yet): either the merger is exhausted, or the minimum entry is taken and the loop goes on
    from `m2` with fuel `fuel2` (the equation of the two runs is how phase B takes over) -/
theorem loopA :
    ∀ fuel m, LInv c m → m.pending = false → mu m.srcs m.heap < fuel →
    (∃ m1, mergerNextLoop c m fuel = some m1 ∧ m1.finished = true ∧ m1.pending = false ∧
        pool m = [] ∧ LInv c m1) ∨
    (∃ m2 fuel2, mergerNextLoop c m fuel = mergerNextLoop c m2 fuel2 ∧ LInv c m2 ∧
        mu m2.srcs m2.heap < fuel2 ∧ m2.pending = true ∧
        (pool m).Perm ({ key := m2.curKey, val := m2.curVal } :: pool m2) ∧
        (∀ x ∈ pool m2, bcmp m2.curKey x.key ≠ .gt) ∧
        (DSrcs c m.srcs → DSrcs c m2.srcs ∧
          ∀ x ∈ pool m2, ele c { key := m2.curKey, val := m2.curVal } x = true)) := by
  intro fuel
  induction fuel with
  | zero => intro m _ _ h; omega
  | succ fuel ih =>
    intro m hi hp hmu
    cases h0 : m.heap[0]? with
    | none =>
      left
      refine ⟨_, loop_empty c m fuel h0, rfl, hp, pool_of_empty h0, ⟨hi.hinv, ?_⟩⟩
      intro _; simpa using h0
    | some e =>
      cases hf : e.finished with
      | true =>
        rw [loop_fin c m fuel h0 hf]
        obtain ⟨h1, h2, h3⟩ := linv_pop c htot htrans hi h0 hf
        rcases ih _ h1 hp (by simp only; omega) with
          ⟨m1, e1, e2, e3, e4, e5⟩ | ⟨m2, f2, e1, e2, e3, e4, e5, e6, e7⟩
        · left
          refine ⟨m1, e1, e2, e3, ?_, e5⟩
          rw [e4] at h2
          simpa using h2
        · right
          exact ⟨m2, f2, e1, e2, e3, e4, h2.trans e5, e6, e7⟩
      | false =>
        right
        rw [loop_take c hF2 m fuel h0 hf hp]
        have hi1 : LInv c { m with curKey := e.key, curVal := e.val, pending := true } :=
          ⟨hi.hinv, hi.finEmpty⟩
        obtain ⟨m', e1, a⟩ := adv c htot htrans hi1 h0 hf
        rw [e1]
        have hsub : ∀ x ∈ pool m', x ∈ pool m := fun x hx =>
          a.pool.mem_iff.mpr (List.mem_cons_of_mem _ hx)
        refine ⟨m', fuel, rfl, a.linv, by have := a.less; simp only at this; omega, a.pending, ?_, ?_, ?_⟩
        · rw [a.curKey, a.curVal]; exact a.pool
        · intro x hx
          rw [a.curKey]
          exact pool_min c htot htrans hi.hinv h0 x (hsub x hx)
        · intro hd
          refine ⟨a.dsrcs hd, ?_⟩
          intro x hx
          rw [a.curKey, a.curVal]
          exact (hle_congr c rfl rfl rfl rfl).trans
            (pool_min_D c htot htrans hi.hinv hd h0 x (hsub x hx))

/-- phase B without a merge function: finished heads are popped, then the loop returns -/
theorem loopB_nomerge (hm : c.merge = none) :
    ∀ fuel m, LInv c m → m.pending = true → mu m.srcs m.heap < fuel →
    ∃ m1, mergerNextLoop c m fuel = some m1 ∧ LInv c m1 ∧ m1.pending = true ∧
      m1.curKey = m.curKey ∧ m1.curVal = m.curVal ∧ (pool m).Perm (pool m1) ∧
      m1.srcs = m.srcs := by
  intro fuel
  induction fuel with
  | zero => intro m _ _ h; omega
  | succ fuel ih =>
    intro m hi hp hmu
    cases h0 : m.heap[0]? with
    | none =>
      refine ⟨_, loop_empty c m fuel h0, ⟨hi.hinv, ?_⟩, hp, rfl, rfl, List.Perm.refl _, rfl⟩
      intro _; simpa using h0
    | some e =>
      cases hf : e.finished with
      | true =>
        rw [loop_fin c m fuel h0 hf]
        obtain ⟨h1, h2, h3⟩ := linv_pop c htot htrans hi h0 hf
        obtain ⟨m1, e1, e2, e3, e4, e5, e6, e7⟩ := ih _ h1 hp (by simp only; omega)
        exact ⟨m1, e1, e2, e3, e4, e5, h2.trans e6, e7⟩
      | false =>
        exact ⟨m, loop_ret_nomerge c hF2 m fuel h0 hf hp hm, hi, hp, rfl, rfl, List.Perm.refl _,
          rfl⟩

/-- phase B with a merge function -/
theorem loopB_merge
    {f : Bytes → Bytes → Bytes → Option Bytes} (hm : c.merge = some f) :
    ∀ fuel m, LInv c m → m.pending = true → (∀ x ∈ pool m, bcmp m.curKey x.key ≠ .gt) →
    mu m.srcs m.heap < fuel → Assembled c f m.curKey m.curVal (pool m) (mergerNextLoop c m fuel) := by
  intro fuel
  induction fuel with
  | zero => intro m _ _ _ h; omega
  | succ fuel ih =>
    intro m hi hp hge hmu
    have hdone : ∀ m1 : MIter, LInv c m1 → m1.pending = true → m1.curKey = m.curKey → m1.curVal = m.curVal →
        pool m1 = pool m → (∀ x ∈ pool m, bcmp m.curKey x.key = .lt) →
        Assembled c f m.curKey m.curVal (pool m) (some m1) := fun m1 h1 h2 h3 h4 h5 h6 =>
      .inl ⟨m1, [], rfl, h1, h2, h3, (fun _ h => nomatch h), h5 ▸ List.Perm.refl _, h5 ▸ h6, congrArg some h4.symm⟩
    cases h0 : m.heap[0]? with
    | none =>
      rw [loop_empty c m fuel h0]
      refine hdone _ ⟨hi.hinv, fun _ => by simpa using h0⟩ hp rfl rfl rfl fun x hx => ?_
      rw [pool_of_empty h0] at hx
      exact nomatch hx
    | some e =>
      cases hf : e.finished with
      | true =>
        rw [loop_fin c m fuel h0 hf]
        obtain ⟨h1, h2, h3⟩ := linv_pop c htot htrans hi h0 hf
        exact (ih _ h1 hp (fun x hx => hge x (h2.mem_iff.mpr hx)) (by simp only; omega)).perm h2
      | false =>
        cases heq : bcmp m.curKey e.key with
        | eq =>
          have hk : e.key = m.curKey := ((bcmp_eq_iff _ _).mp heq).symm
          cases hcb : f m.curKey m.curVal e.val with
          | none =>
            obtain ⟨m', _, a⟩ := adv c htot htrans hi h0 hf
            rw [loop_merge_fail c hF2 m fuel h0 hf hp hm heq hcb]
            exact .inr ⟨rfl, [], { key := e.key, val := e.val }, pool m', m.curVal, (fun _ h => nomatch h), hk,
              a.pool, rfl, hcb⟩
          | some mv =>
            rw [loop_merge_ok c hF2 m fuel h0 hf hp hm heq hcb]
            obtain ⟨m', e1, a⟩ :=
              adv c htot htrans (m := { m with curVal := mv }) ⟨hi.hinv, hi.finEmpty⟩ h0 hf
            have e3' : (pool m).Perm ({ key := e.key, val := e.val } :: pool m') := a.pool
            have := ih m' a.linv (a.pending.trans hp)
              (fun x hx => a.curKey ▸ hge x (e3'.mem_iff.mpr (List.mem_cons_of_mem _ hx)))
              (by have := a.less; simp only at this; omega)
            rw [a.curKey, a.curVal] at this
            rw [e1]
            exact (this.cons (e := { key := e.key, val := e.val }) hk hcb).perm e3'
        | lt =>
          rw [loop_merge_ne c hF2 m fuel h0 hf hp hm (by simp [heq])]
          exact hdone m hi hp rfl rfl rfl fun x hx =>
            bcmp_lt_le_trans heq (pool_min c htot htrans hi.hinv h0 x hx)
        | gt =>
          refine absurd heq (hge { key := e.key, val := e.val } ?_)
          rw [pool_eq, (heap_head h0).1, poolL_cons, contrib_live hf]
          exact List.mem_cons_self

/-- **C04, one step, no merge function.**  Either the merger is exhausted (and stays so), or the
    emitted entry is a minimum of the pool and is removed from it. -/
theorem _root_.Mtbl.mergerNext_nomerge
    {m : MIter} (hi : MInv c m) (hm : c.merge = none) (hfin : m.finished = false) :
    (∃ m', mergerNext c m = (.fail, m') ∧ pool m = [] ∧ m'.finished = true ∧ MInv c m') ∨
    (∃ k v m', mergerNext c m = (.ok k v, m') ∧ MInv c m' ∧
      (pool m).Perm ({ key := k, val := v } :: pool m') ∧
      (∀ e ∈ pool m', bcmp k e.key ≠ .gt) ∧
      (DSrcs c m.srcs → DSrcs c m'.srcs ∧ ∀ e ∈ pool m', ele c { key := k, val := v } e = true)) := by
  rw [mergerNext_unfold c hF2 m hfin]
  have hi0 : LInv c { m with curKey := [], curVal := [], pending := false } :=
    ⟨hi.hinv, hi.finEmpty⟩
  rcases loopA c hF2 htot htrans _ _ hi0 rfl (mu_lt_totalLeft _) with
    ⟨m1, e1, e2, e3, e4, e5⟩ | ⟨m2, f2, e1, e2, e3, e4, e5, e6, e7⟩
  · left
    refine ⟨m1, ?_, e4, e2, ⟨e5, e3⟩⟩
    rw [e1]; simp [e3]
  · right
    obtain ⟨m1, d1, d2, d3, d4, d5, d6, d7⟩ := loopB_nomerge c hF2 htot htrans hm f2 m2 e2 e4 e3
    refine ⟨m1.curKey, m1.curVal, { m1 with pending := false }, ?_, ⟨⟨d2.hinv, d2.finEmpty⟩, rfl⟩,
      ?_, ?_, ?_⟩
    · rw [e1, d1]; simp [d3]
    · rw [d4, d5]
      exact e5.trans (List.Perm.cons _ d6)
    · intro x hx
      rw [d4]
      exact e6 x (d6.mem_iff.mpr hx)
    · intro hd
      obtain ⟨h1, h2⟩ := e7 hd
      refine ⟨?_, ?_⟩
      · simp only; rw [d7]; exact h1
      · intro x hx
        rw [d4, d5]
        exact h2 x (d6.mem_iff.mpr hx)

/-- **C04, one step, with a merge function `f`.**
    (a) exhausted; (b) the emitted key is the minimum key of the pool, all its entries `grp` are
    removed from the pool and the value is the fold of `f` over their values, each used once;
    (c) the callback returned `none` on an entry of the minimum key after a prefix of the group had
    been folded. -/
theorem _root_.Mtbl.mergerNext_merge
    {m : MIter} {f : Bytes → Bytes → Bytes → Option Bytes}
    (hi : MInv c m) (hm : c.merge = some f) (hfin : m.finished = false) :
    (∃ m', mergerNext c m = (.fail, m') ∧ pool m = [] ∧ m'.finished = true ∧ MInv c m') ∨
    (∃ k v m', mergerNext c m = (.ok k v, m') ∧ MInv c m' ∧
      ∃ grp : List Entry, grp ≠ [] ∧ (∀ e ∈ grp, e.key = k) ∧ (pool m).Perm (grp ++ pool m') ∧
        (∀ e ∈ pool m', bcmp k e.key = .lt) ∧
        ∃ l, l.Perm (grp.map (·.val)) ∧ foldl1? f k l = some v) ∨
    (∃ m', mergerNext c m = (.fail, m') ∧
      ∃ (k : Bytes) (pre : List Entry) (b : Entry) (rest : List Entry) (a' : Bytes),
        pre ≠ [] ∧ (∀ x ∈ pre, x.key = k) ∧ b.key = k ∧ (pool m).Perm (pre ++ b :: rest) ∧
        (∀ x ∈ pool m, bcmp k x.key ≠ .gt) ∧
        foldl1? f k (pre.map (·.val)) = some a' ∧ f k a' b.val = none) := by
  rw [mergerNext_unfold c hF2 m hfin]
  have hi0 : LInv c { m with curKey := [], curVal := [], pending := false } :=
    ⟨hi.hinv, hi.finEmpty⟩
  rcases loopA c hF2 htot htrans _ _ hi0 rfl (mu_lt_totalLeft _) with
    ⟨m1, e1, e2, e3, e4, e5⟩ | ⟨m2, f2, e1, e2, e3, e4, e5, e6, _⟩
  · left
    refine ⟨m1, ?_, e4, e2, ⟨e5, e3⟩⟩
    rw [e1]; simp [e3]
  · right
    have e5' : (pool m).Perm ({ key := m2.curKey, val := m2.curVal } :: pool m2) := e5
    rcases loopB_merge c hF2 htot htrans hm f2 m2 e2 e4 e6 e3 with
      ⟨m1, grp, d1, d2, d3, d4, g1, g2, g3, g4⟩ | ⟨d1, pre, b, rest, a', g1, g2, g3, g4, g5⟩
    · left
      refine ⟨m1.curKey, m1.curVal, { m1 with pending := false }, ?_,
        ⟨⟨d2.hinv, d2.finEmpty⟩, rfl⟩, { key := m2.curKey, val := m2.curVal } :: grp,
        by simp, ?_, ?_, ?_, _, List.Perm.refl _, ?_⟩
      · rw [e1, d1]; simp [d3]
      · rw [d4]; exact List.forall_mem_cons.mpr ⟨rfl, g1⟩
      · exact e5'.trans (List.Perm.cons _ g2)
      · rw [d4]; exact g3
      · rw [d4]; exact g4
    · right
      refine ⟨{ m with curKey := [], curVal := [], pending := false }, ?_, m2.curKey,
        { key := m2.curKey, val := m2.curVal } :: pre, b, rest, a',
        by simp, ?_, g2, ?_, ?_, g4, g5⟩
      · rw [e1, d1]
      · exact List.forall_mem_cons.mpr ⟨rfl, g1⟩
      · exact e5'.trans (List.Perm.cons _ g3)
      · intro x hx
        rcases List.mem_cons.mp (e5'.mem_iff.mp hx) with rfl | hx
        · simp [bcmp_refl]
        · exact e6 x hx

end

theorem _root_.Mtbl.mergerNext_finished (c : MCfg) (m : MIter) (h : m.finished = true) :
    mergerNext c m = (.fail, m) := by
  simp [mergerNext, h]

/-- failure is sticky (no merge function): a failing `next` leaves a finished iterator -/
theorem _root_.Mtbl.mergerNext_fail_sticky_nomerge (c : MCfg) (hF2 : c.fixF2 = true)
    (htot : ∀ a b, hle c a b = true ∨ hle c b a = true)
    (htrans : ∀ a b d, hle c a b = true → hle c b d = true → hle c a d = true)
    {m m' : MIter} (hi : MInv c m) (hm : c.merge = none) (h : mergerNext c m = (.fail, m')) :
    pool m = [] ∧ m'.finished = true ∧ mergerNext c m' = (.fail, m') := by
  cases hfin : m.finished with
  | true =>
    rw [mergerNext_finished c m hfin] at h
    simp only [Prod.mk.injEq, true_and] at h
    subst h
    have hz := hi.finEmpty hfin
    refine ⟨pool_of_empty (by simpa using hz), hfin, mergerNext_finished c m hfin⟩
  | false =>
    rcases mergerNext_nomerge c hF2 htot htrans hi hm hfin with
      ⟨m1, e1, e2, e3, _⟩ | ⟨k, v, m1, e1, _⟩
    · rw [e1] at h
      simp only [Prod.mk.injEq, true_and] at h
      subst h
      exact ⟨e2, e3, mergerNext_finished c m1 e3⟩
    · rw [e1] at h; simp at h

/-- failure is sticky (merge function): a `next` failing on an exhausted merger (case (a)) leaves
    a finished iterator.  (After a callback failure the C code leaves the state unspecified.) -/
theorem _root_.Mtbl.mergerNext_fail_sticky_merge (c : MCfg) (hF2 : c.fixF2 = true)
    (htot : ∀ a b, hle c a b = true ∨ hle c b a = true)
    (htrans : ∀ a b d, hle c a b = true → hle c b d = true → hle c a d = true)
    {m m' : MIter} {f : Bytes → Bytes → Bytes → Option Bytes}
    (hi : MInv c m) (hm : c.merge = some f) (h : mergerNext c m = (.fail, m'))
    (hp : pool m = []) :
    m'.finished = true ∧ mergerNext c m' = (.fail, m') := by
  cases hfin : m.finished with
  | true =>
    rw [mergerNext_finished c m hfin] at h
    simp only [Prod.mk.injEq, true_and] at h
    subst h
    exact ⟨hfin, mergerNext_finished c m hfin⟩
  | false =>
    rcases mergerNext_merge c hF2 htot htrans hi hm hfin with
      ⟨m1, e1, e2, e3, _⟩ | ⟨k, v, m1, e1, _⟩ | ⟨m1, e1, k, pre, b, rest, a', _, _, _, g, _⟩
    · rw [e1] at h
      simp only [Prod.mk.injEq, true_and] at h
      subst h
      exact ⟨e3, mergerNext_finished c m1 e3⟩
    · rw [e1] at h; simp at h
    · rw [hp] at g
      have := g.length_eq
      simp at this

def initStep (c : MCfg) (m : MIter) (i : Nat) : MIter :=
  let r := fill m i { src := i, key := [], val := [] }
  if r.1.finished then r.2
  else { r.2 with heap := Heap.push (hle c) r.2.heap r.1, live := r.2.live ++ [i] }

theorem mergerInit_eq (c : MCfg) (srcs : Array Src) :
    mergerInit c srcs = (List.range srcs.size).foldl (initStep c) { srcs := srcs, live := [] } :=
  rfl

theorem initStep_some (c : MCfg) (m : MIter) (i : Nat) {x : Entry} {s' : Src}
    (h : (m.srcs[i]!).next = (some x, s')) :
    initStep c m i = { m with
      srcs := m.srcs.setIfInBounds i s'
      heap := Heap.push (hle c) m.heap { src := i, key := x.key, val := x.val, finished := false }
      live := m.live ++ [i] } := by
  simp [initStep, fill, h]

theorem initStep_none (c : MCfg) (m : MIter) (i : Nat) {s' : Src}
    (h : (m.srcs[i]!).next = (none, s')) :
    initStep c m i = { m with srcs := m.srcs.setIfInBounds i s' } := by
  simp [initStep, fill, h]

structure InitInv (c : MCfg) (srcs : Array Src) (n : Nat) (m : MIter) : Prop where
  size : m.srcs.size = srcs.size
  hinv : HInv c m.srcs m.heap
  lt : ∀ h ∈ m.heap.toList, h.src < n
  nofin : ∀ h ∈ m.heap.toList, h.finished = false
  rest : ∀ j, n ≤ j → m.srcs[j]! = srcs[j]!
  perm : (pool m).Perm ((srcs.toList.take n).flatMap Src.remaining)
  fin : m.finished = false
  pend : m.pending = false
  ds : DSrcs c srcs → DSrcs c m.srcs

section
include htot htrans

theorem initInv_step
    (srcs : Array Src) (n : Nat) (m : MIter) (hi : InitInv c srcs n m) (hn : n < srcs.size) :
    InitInv c srcs (n + 1) (initStep c m n) := by
  have hnm : n < m.srcs.size := hi.size ▸ hn
  have hsn : m.srcs[n]! = srcs[n]! := hi.rest n (Nat.le_refl _)
  have htake : srcs.toList.take (n + 1) = srcs.toList.take n ++ [m.srcs[n]!] := by
    rw [hsn, List.take_succ_eq_append_getElem (by simpa using hn), getElem!_pos srcs n hn]
    simp
  have hne : ∀ h ∈ m.heap.toList, h.src ≠ n := fun h hh => Nat.ne_of_lt (hi.lt h hh)
  have hrest : ∀ s' : Src, ∀ j, n + 1 ≤ j → (m.srcs.setIfInBounds n s')[j]! = srcs[j]! := by
    intro s' j hj
    rw [Heap.get_set_ne m.srcs n j s' (by omega)]
    exact hi.rest j (by omega)
  have hL := hi.hinv.hl
  cases hnx : (m.srcs[n]!).next with
  | mk o s' =>
    cases o with
    | none =>
      obtain ⟨hrem, _, hes, _⟩ := next_none hnx
      rw [initStep_none c m n hnx]
      refine {
        size := Array.size_setIfInBounds.trans hi.size
        hinv := (hL.set hnm hne hes).hinv hi.hinv.isHeap hi.hinv.finTail
        lt := fun h hh => Nat.lt_succ_of_lt (hi.lt h hh)
        nofin := hi.nofin
        rest := hrest s'
        perm := ?_
        fin := hi.fin
        pend := hi.pend
        ds := fun hd => (DSrcs_set c hnm hes).mpr (hi.ds hd) }
      rw [pool_eq, htake, List.flatMap_append, List.flatMap_singleton, hrem, List.append_nil]
      exact (poolL_set_ne m.srcs n s' _ hne).symm ▸ hi.perm
    | some x =>
      obtain ⟨hrem, hes, _⟩ := next_some hnx
      rw [initStep_some c m n hnx]
      have hp := Heap.push_perm (hle c) m.heap { src := n, key := x.key, val := x.val, finished := false }
      have hnofin : ∀ h ∈ (Heap.push (hle c) m.heap
          { src := n, key := x.key, val := x.val, finished := false }).toList, h.finished = false := by
        intro h hh
        rcases List.mem_cons.mp (hp.mem_iff.mp hh) with rfl | hh
        · rfl
        · exact hi.nofin h hh
      refine {
        size := Array.size_setIfInBounds.trans hi.size
        hinv := ((hL.refill hnm hne hes { src := n, key := x.key, val := x.val, finished := false } rfl
          (fun _ => next_some_le (hL.sorted _ hnm) hnx) (fun hd _ => next_some_le (hd _ hnm) hnx)).perm hp).hinv
          (Heap.push_isHeap (hle c) htot htrans _ _ hi.hinv.isHeap)
          (fun h hh => hnofin h (List.mem_of_mem_tail hh))
        lt := fun h hh => ?_
        nofin := hnofin
        rest := hrest s'
        perm := ?_
        fin := hi.fin
        pend := hi.pend
        ds := fun hd => (DSrcs_set c hnm hes).mpr (hi.ds hd) }
      · rcases List.mem_cons.mp (hp.mem_iff.mp hh) with rfl | hh
        · exact Nat.lt_succ_self n
        · exact Nat.lt_succ_of_lt (hi.lt h hh)
      · rw [pool_eq, htake, List.flatMap_append, List.flatMap_singleton, hrem]
        refine (poolL_perm _ hp).trans ?_
        rw [poolL_refill hnm hne s' _ rfl]
        exact List.perm_append_comm.trans (List.Perm.append_right _ hi.perm)

theorem initInv_fold
    (srcs : Array Src) (hs : ∀ s ∈ srcs.toList, Sorted s.es) :
    ∀ n, n ≤ srcs.size →
      InitInv c srcs n ((List.range n).foldl (initStep c) { srcs := srcs, live := [] }) := by
  intro n
  induction n with
  | zero =>
    intro _
    have hnil : ∀ {p : HEnt → Prop}, ∀ x ∈ ([] : List HEnt), p x := fun _ h => nomatch h
    exact {
      size := rfl
      hinv := {
        isHeap := fun i _ hi => absurd hi (Nat.not_lt_zero i)
        nodup := List.nodup_nil
        inb := hnil
        finTail := hnil
        sorted := fun i hi => hs _ (getElem!_pos srcs i hi ▸ Array.mem_toList_iff.mpr (Array.getElem_mem hi))
        headLe := hnil
        headLeD := fun _ => hnil }
      lt := hnil
      nofin := hnil
      rest := fun _ _ => rfl
      perm := List.Perm.refl _
      fin := rfl
      pend := rfl
      ds := id }
  | succ n ih =>
    intro hn
    rw [List.range_succ, List.foldl_append]
    exact initInv_step c htot htrans srcs n _ (ih (Nat.le_of_succ_le hn)) hn

/-- **C04, initial state**: the invariant holds and the pool is what the sources still deliver -/
theorem _root_.Mtbl.mergerInit_inv
    (srcs : Array Src) (hs : ∀ s ∈ srcs.toList, Sorted s.es) :
    MInv c (mergerInit c srcs) ∧
    (pool (mergerInit c srcs)).Perm (srcs.toList.flatMap Src.remaining) ∧
    (mergerInit c srcs).finished = false ∧
    (DSrcs c srcs → DSrcs c (mergerInit c srcs).srcs) := by
  have h := initInv_fold c htot htrans srcs hs srcs.size (Nat.le_refl _)
  rw [← mergerInit_eq] at h
  refine ⟨⟨⟨h.hinv, ?_⟩, h.pend⟩, ?_, h.fin, h.ds⟩
  · intro hf; rw [h.fin] at hf; simp at hf
  · have := h.perm
    rwa [List.take_of_length_le (by simp)] at this

end

/-- repeat `merger_iter_next` until it fails (at most `fuel` times) -/
def _root_.Mtbl.mergerDrain (c : MCfg) : Nat → MIter → List Entry
  | 0, _ => []
  | fuel + 1, m =>
    match mergerNext c m with
    | (.ok k v, m') => { key := k, val := v } :: mergerDrain c fuel m'
    | (.fail, _) => []

theorem mergerDrain_ok (c : MCfg) (fuel : Nat) {m m' : MIter} {k v : Bytes}
    (h : mergerNext c m = (.ok k v, m')) :
    mergerDrain c (fuel + 1) m = { key := k, val := v } :: mergerDrain c fuel m' := by
  simp [mergerDrain, h]

theorem mergerDrain_fail (c : MCfg) (fuel : Nat) {m m' : MIter}
    (h : mergerNext c m = (.fail, m')) : mergerDrain c (fuel + 1) m = [] := by
  simp [mergerDrain, h]

theorem pool_of_finished {c : MCfg} {m : MIter} (hi : MInv c m) (hfin : m.finished = true) :
    pool m = [] :=
  pool_of_empty (by simpa using hi.finEmpty hfin)

/-! ### non-vacuity: concrete runs (`a` = 97, `b` = 98, `c` = 99, `x` = 120, `y` = 121, digits 49..52) -/

/-- sources `[("", "x"), ("a","1"), ("b","2")]`, `[("a","3")]`, `[("", "y"), ("c","4")]` -/
def exSrcs : Array Src := #[
  { es := [⟨[], [120]⟩, ⟨[97], [49]⟩, ⟨[98], [50]⟩] },
  { es := [⟨[97], [51]⟩] },
  { es := [⟨[], [121]⟩, ⟨[99], [52]⟩] }]

def catCfg : MCfg := { merge := some fun _ a b => some (a ++ b), dupsort := none }
def noMergeCfg : MCfg := { merge := none, dupsort := none }

/-- with concatenation as merge function: keys `""`, `a`, `b`, `c`, each input value used once -/
example : mergerDrain catCfg 10 (mergerInit catCfg exSrcs) =
    [⟨[], [120, 121]⟩, ⟨[97], [49, 51]⟩, ⟨[98], [50]⟩, ⟨[99], [52]⟩] := by decide +kernel

/-- without a merge function every entry is emitted, in ascending key order -/
example : mergerDrain noMergeCfg 10 (mergerInit noMergeCfg exSrcs) =
    [⟨[], [120]⟩, ⟨[], [121]⟩, ⟨[97], [49]⟩, ⟨[97], [51]⟩, ⟨[98], [50]⟩, ⟨[99], [52]⟩] := by
  decide +kernel

/-- a failing callback makes that `next` fail -/
example : (mergerNext { merge := some fun _ _ _ => none, dupsort := none }
    (mergerInit { merge := some fun _ _ _ => none, dupsort := none } exSrcs)).1 = .fail := by
  decide +kernel

/-- **F2** (pinned code, `fixF2 := false`): the entry with the empty key is dropped, because
    "an entry is being assembled" is tested as `cur_key` non-empty; the repaired code emits both. -/
theorem _root_.Mtbl.F2_witness :
    let srcs : Array Src := #[{ es := [⟨[], [118, 48]⟩, ⟨[97], [118, 49]⟩] }]
    let bad : MCfg := { merge := none, dupsort := none, fixF2 := false }
    let good : MCfg := { merge := none, dupsort := none, fixF2 := true }
    mergerDrain bad 5 (mergerInit bad srcs) = [⟨[97], [118, 49]⟩] ∧
    mergerDrain good 5 (mergerInit good srcs) = [⟨[], [118, 48]⟩, ⟨[97], [118, 49]⟩] := by
  decide +kernel

/-- the values the entries `es` hold for key `k` -/
def _root_.Mtbl.valuesOf (k : Bytes) (es : List Entry) : List Bytes :=
  (es.filter fun x => x.key == k).map (·.val)

theorem valuesOf_perm (k : Bytes) {a b : List Entry} (h : a.Perm b) :
    (valuesOf k a).Perm (valuesOf k b) := (h.filter _).map _

theorem perm_keys {a b : List Entry} (h : a.Perm b) (k : Bytes) :
    (∃ e ∈ a, e.key = k) ↔ (∃ e ∈ b, e.key = k) := by
  constructor
  · rintro ⟨e, he, hk⟩; exact ⟨e, h.mem_iff.mp he, hk⟩
  · rintro ⟨e, he, hk⟩; exact ⟨e, h.mem_iff.mpr he, hk⟩

theorem valuesOf_append (k : Bytes) (a b : List Entry) :
    valuesOf k (a ++ b) = valuesOf k a ++ valuesOf k b := by
  simp [valuesOf]

theorem valuesOf_all (k : Bytes) (a : List Entry) (h : ∀ x ∈ a, x.key = k) :
    valuesOf k a = a.map (·.val) := by
  unfold valuesOf
  rw [List.filter_eq_self.mpr]
  intro x hx; simp [h x hx]

theorem valuesOf_none (k : Bytes) (a : List Entry) (h : ∀ x ∈ a, x.key ≠ k) :
    valuesOf k a = [] := by
  unfold valuesOf
  rw [List.filter_eq_nil_iff.mpr]
  · rfl
  · intro x hx; simp [h x hx]

theorem length_flatMap_remaining_le (l : List Src) :
    (l.flatMap Src.remaining).length ≤ (l.map fun s => s.es.length).sum := by
  induction l with
  | nil => simp
  | cons s l ih =>
    have := remaining_length_le s
    simp only [List.flatMap_cons, List.length_append, List.map_cons, List.sum_cons]
    omega

section
include hF2 htot htrans

theorem drain_nomerge
    (hm : c.merge = none) :
    ∀ fuel m, MInv c m → (pool m).length < fuel →
      (mergerDrain c fuel m).Perm (pool m) ∧ Sorted (mergerDrain c fuel m) ∧
      (DSrcs c m.srcs → DSorted c (mergerDrain c fuel m)) := by
  intro fuel
  induction fuel with
  | zero => intro m _ h; omega
  | succ fuel ih =>
    intro m hi hlen
    cases hfin : m.finished with
    | true =>
      rw [mergerDrain_fail c fuel (mergerNext_finished c m hfin), pool_of_finished hi hfin]
      exact ⟨List.Perm.refl _, List.Pairwise.nil, fun _ => List.Pairwise.nil⟩
    | false =>
      rcases mergerNext_nomerge c hF2 htot htrans hi hm hfin with
        ⟨m1, e1, e2, _⟩ | ⟨k, v, m1, e1, e2, e3, e4, e5⟩
      · rw [mergerDrain_fail c fuel e1, e2]
        exact ⟨List.Perm.refl _, List.Pairwise.nil, fun _ => List.Pairwise.nil⟩
      · rw [mergerDrain_ok c fuel e1]
        have hl := e3.length_eq
        simp only [List.length_cons] at hl
        obtain ⟨h1, h2, h3⟩ := ih m1 e2 (by omega)
        refine ⟨(List.Perm.cons _ h1).trans e3.symm, ?_, ?_⟩
        · unfold Sorted
          rw [List.pairwise_cons]
          exact ⟨fun x hx => e4 x (h1.mem_iff.mp hx), h2⟩
        · intro hd
          obtain ⟨d1, d2⟩ := e5 hd
          unfold DSorted
          rw [List.pairwise_cons]
          exact ⟨fun x hx => d2 x (h1.mem_iff.mp hx), h3 d1⟩

theorem drain_merge
    {f : Bytes → Bytes → Bytes → Option Bytes} (hm : c.merge = some f)
    (hok : ∀ k a b, f k a b ≠ none) :
    ∀ fuel m, MInv c m → (pool m).length < fuel →
      StrictSorted (mergerDrain c fuel m) ∧
      (∀ e ∈ mergerDrain c fuel m, ∃ e' ∈ pool m, e'.key = e.key) ∧
      (∀ e' ∈ pool m, ∃ e ∈ mergerDrain c fuel m, e.key = e'.key) ∧
      ∀ e ∈ mergerDrain c fuel m, ∃ l, l.Perm (valuesOf e.key (pool m)) ∧
        foldl1? f e.key l = some e.val := by
  intro fuel
  induction fuel with
  | zero => intro m _ h; omega
  | succ fuel ih =>
    intro m hi hlen
    cases hfin : m.finished with
    | true =>
      rw [mergerDrain_fail c fuel (mergerNext_finished c m hfin), pool_of_finished hi hfin]
      exact ⟨List.Pairwise.nil, by simp, by simp, by simp⟩
    | false =>
      rcases mergerNext_merge c hF2 htot htrans hi hm hfin with
        ⟨m1, e1, e2, _⟩ | ⟨k, v, m1, e1, e2, grp, g0, g1, g2, g3, l, g4, g5⟩ |
        ⟨m1, e1, k, pre, b, rest, a', _, _, _, _, _, _, g⟩
      · rw [mergerDrain_fail c fuel e1, e2]
        exact ⟨List.Pairwise.nil, by simp, by simp, by simp⟩
      · rw [mergerDrain_ok c fuel e1]
        have hl := g2.length_eq
        have hgl : 0 < grp.length := List.length_pos_iff.mpr g0
        simp only [List.length_append] at hl
        obtain ⟨h1, h2, h3, h4⟩ := ih m1 e2 (by omega)
        have hlt : ∀ e ∈ mergerDrain c fuel m1, bcmp k e.key = .lt := by
          intro e he
          obtain ⟨e', he', hk⟩ := h2 e he
          rw [← hk]; exact g3 e' he'
        refine ⟨?_, ?_, ?_, ?_⟩
        · unfold StrictSorted
          rw [List.pairwise_cons]
          exact ⟨hlt, h1⟩
        · intro e he
          rcases List.mem_cons.mp he with rfl | he
          · obtain ⟨x, hx⟩ := List.exists_mem_of_ne_nil grp g0
            exact ⟨x, g2.mem_iff.mpr (List.mem_append_left _ hx), g1 x hx⟩
          · obtain ⟨e', he', hk⟩ := h2 e he
            exact ⟨e', g2.mem_iff.mpr (List.mem_append_right _ he'), hk⟩
        · intro e' he'
          rcases List.mem_append.mp (g2.mem_iff.mp he') with hg | hp
          · exact ⟨_, List.mem_cons_self, (g1 e' hg).symm⟩
          · obtain ⟨e, he, hk⟩ := h3 e' hp
            exact ⟨e, List.mem_cons_of_mem _ he, hk⟩
        · intro e he
          rcases List.mem_cons.mp he with rfl | he
          · refine ⟨l, ?_, g5⟩
            refine g4.trans ?_
            refine List.Perm.trans ?_ (valuesOf_perm k g2).symm
            rw [valuesOf_append, valuesOf_all k grp g1,
              valuesOf_none k (pool m1) (fun x hx => ne_of_bcmp_lt (g3 x hx)), List.append_nil]
          · obtain ⟨l', p1, p2⟩ := h4 e he
            refine ⟨l', ?_, p2⟩
            refine p1.trans ?_
            refine List.Perm.trans ?_ (valuesOf_perm e.key g2).symm
            rw [valuesOf_append, valuesOf_none e.key grp, List.nil_append]
            intro x hx
            rw [g1 x hx]
            exact (ne_of_bcmp_lt (hlt e he)).symm
      · exact absurd g (hok _ _ _)

end

/-! ### when is `hle c` a total preorder?  (discharging `htot`, `htrans`) -/

/-- the dupsort comparison as a `≤` test on values under key `k` (trivial without dupsort) -/
def _root_.Mtbl.dle (c : MCfg) (k a b : Bytes) : Bool :=
  match c.dupsort with
  | some d => d k a b != .gt
  | none => true

theorem hle_iff (c : MCfg) (a b : HEnt) :
    hle c a b = true ↔
      bcmp a.key b.key = .lt ∨ (bcmp a.key b.key = .eq ∧ dle c a.key a.val b.val = true) := by
  unfold hle hcmp dle
  cases h : bcmp a.key b.key <;> cases hd : c.dupsort <;> simp

theorem _root_.Mtbl.hle_total (c : MCfg)
    (hd : ∀ k a b, dle c k a b = true ∨ dle c k b a = true) :
    ∀ a b, hle c a b = true ∨ hle c b a = true := by
  intro a b
  rw [hle_iff, hle_iff]
  cases h : bcmp a.key b.key with
  | lt => left; left; rfl
  | gt => right; left; exact (bcmp_swap _ _).mpr h
  | eq =>
    have hk := (bcmp_eq_iff _ _).mp h
    have h' : bcmp b.key a.key = .eq := by rw [hk]; exact bcmp_refl _
    rcases hd a.key a.val b.val with h1 | h1
    · left; right; exact ⟨rfl, h1⟩
    · right; right; refine ⟨h', ?_⟩; rw [← hk]; exact h1

theorem _root_.Mtbl.hle_trans (c : MCfg)
    (hd : ∀ k a b e, dle c k a b = true → dle c k b e = true → dle c k a e = true) :
    ∀ a b e, hle c a b = true → hle c b e = true → hle c a e = true := by
  intro a b e
  rw [hle_iff, hle_iff, hle_iff]
  rintro (h1 | ⟨h1, d1⟩) (h2 | ⟨h2, d2⟩)
  · left; exact bcmp_lt_trans h1 h2
  · left; rw [← (bcmp_eq_iff _ _).mp h2]; exact h1
  · left; rw [(bcmp_eq_iff _ _).mp h1]; exact h2
  · right
    have k1 := (bcmp_eq_iff _ _).mp h1
    have k2 := (bcmp_eq_iff _ _).mp h2
    refine ⟨by rw [k1, k2]; exact bcmp_refl _, ?_⟩
    rw [← k1] at d2
    exact hd _ _ _ _ d1 d2

theorem _root_.Mtbl.hle_total_of_no_dupsort (c : MCfg) (h : c.dupsort = none) :
    ∀ a b, hle c a b = true ∨ hle c b a = true :=
  hle_total c (by intro k a b; simp [dle, h])

theorem _root_.Mtbl.hle_trans_of_no_dupsort (c : MCfg) (h : c.dupsort = none) :
    ∀ a b e, hle c a b = true → hle c b e = true → hle c a e = true :=
  hle_trans c (by intro k a b e; simp [dle, h])

/-- dupsort by bytewise value comparison (the usual choice) gives a total preorder -/
theorem _root_.Mtbl.hle_total_of_bcmp_dupsort (c : MCfg)
    (h : c.dupsort = some fun _ a b => bcmp a b) :
    ∀ a b, hle c a b = true ∨ hle c b a = true := by
  apply hle_total
  intro k a b
  simp only [dle, h, bne_iff_ne, ne_eq]
  cases hab : bcmp a b with
  | gt => right; rw [(bcmp_swap b a).mpr hab]; simp
  | lt => left; simp
  | eq => left; simp

theorem _root_.Mtbl.hle_trans_of_bcmp_dupsort (c : MCfg)
    (h : c.dupsort = some fun _ a b => bcmp a b) :
    ∀ a b e, hle c a b = true → hle c b e = true → hle c a e = true := by
  apply hle_trans
  intro k a b e
  simp only [dle, h, bne_iff_ne, ne_eq]
  exact bcmp_le_trans

/-- dupsort example: two sources sorted by (key, value); the output is sorted by (key, value) -/
example :
    let c : MCfg := { merge := none, dupsort := some fun _ a b => bcmp a b }
    mergerDrain c 10 (mergerInit c #[{ es := [⟨[97], [50]⟩, ⟨[97], [52]⟩, ⟨[98], [49]⟩] },
      { es := [⟨[97], [49]⟩, ⟨[97], [51]⟩] }]) =
    [⟨[97], [49]⟩, ⟨[97], [50]⟩, ⟨[97], [51]⟩, ⟨[97], [52]⟩, ⟨[98], [49]⟩] := by
  decide +kernel

theorem exSrcs_sorted : ∀ s ∈ exSrcs.toList, Sorted s.es := by
  unfold Sorted; decide +kernel

/-- the source kind `merger_iter`/`merger_get*` give their per-table iterators -/
def _root_.Mtbl.srcKind : Kind → Kind
  | .get k => .range k
  | k => k


theorem mergerIter_some (tables : List (List Entry)) (kind : Kind) (start : Bytes) {m : MIter}
    (h : mergerIter c tables kind start = some m) :
    m = mergerInit c (tables.toArray.map fun es =>
      { es := es, kind := srcKind kind, cur := specSeek es start }) := by
  have key : ∀ {x : MIter} {b : Bool}, (if b then none else some x) = some m → m = x := by
    intro x b hb
    cases b
    · exact (Option.some.inj hb).symm
    · cases hb
  cases kind with
  | iter => exact (Option.some.inj h).symm
  | get k => exact key h
  | pfx k => exact key h
  | range k => exact key h

section
include htot htrans

/-- **C04, initial state of `mtbl_merger_iter` / `get` / `get_prefix` / `get_range`**: the invariant
    holds and the pool is what the per-table iterators deliver. -/
theorem _root_.Mtbl.mergerIter_inv
    (tables : List (List Entry)) (hs : ∀ es ∈ tables, Sorted es) (kind : Kind) (start : Bytes)
    {m : MIter} (h : mergerIter c tables kind start = some m) :
    MInv c m ∧ m.finished = false ∧
    (pool m).Perm (tables.flatMap fun es =>
      Src.remaining { es := es, kind := srcKind kind, cur := specSeek es start }) := by
  rw [mergerIter_some c tables kind start h]
  have hi := mergerInit_inv c htot htrans (tables.toArray.map fun es =>
      ({ es := es, kind := srcKind kind, cur := specSeek es start } : Src)) fun s hs' => by
    rw [Array.toList_map, List.mem_map] at hs'
    obtain ⟨es, hes, rfl⟩ := hs'
    exact hs es hes
  rw [Array.toList_map, List.flatMap_map] at hi
  exact ⟨hi.1, hi.2.2.1, hi.2.1⟩

end

end MergerProofs
end Mtbl
