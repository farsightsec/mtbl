import MtblModel.Generated.OwnerSites
/-
  C14, static part (ii) and (iv): who touches which field of a pooled writer / sorter, and who writes the CRC function
  pointer.  The tables are REGENERATED FROM THE C SOURCE on every run (translators/owner_sites.py):
  `Mtbl.Generated.writerSites`, `sorterSites` (every access to a field of struct mtbl_writer / mtbl_sorter, in source
  order per function, with the `if (x->pool != NULL)` branch it sits in and markers for result_handler_destroy calls and
  calls of other functions of the file) and `crcPointerWrites`.

  The discipline that makes the pooled writer and sorter race free, given the pool's own hand-off (C14_norace):
    * the function run by the RESULT HANDLER thread (`_mtbl_writer_write_data_block`, `_collect_readers_cb`) and the
      functions run by the CALLER before the handler is joined (`mtbl_writer_add`, `_mtbl_writer_flush`; `mtbl_sorter_add`,
      `_mtbl_sorter_flush`, `_mtbl_sorter_get_entry_batch`, `mtbl_sorter_write`) touch disjoint fields, except fields that
      are written only by the constructor (`fd`) — accesses inside an `else` of `if (pool != NULL)` run only without a pool;
    * the functions run by WORKER threads read only constructor-written fields (`opt.*`);
    * every function that touches the handler's fields from the caller side does so only after `result_handler_destroy`
      (the join), in source order;
    * every function that touches the object at all is classified here — a new one makes `*_classified` fail.
-/
namespace Mtbl.Owner
open Mtbl.Generated

def isMarker (s : Site) : Bool := s.obj == "marker"
def ctx (s : Site) : String := s.locks.headD ""

structure Roles where
  ctor : List String        -- run before the object is shared
  handler : List String     -- run by the result-handler thread (pooled) or by the caller (no pool)
  worker : List String      -- run by pool workers
  callerPre : List String   -- run by the caller while jobs may be in flight
  postJoin : List String    -- join the handler themselves (or are only called after the join) before touching its fields
  immutable : List String   -- fields written by the constructor only

def writerRoles : Roles :=
  { ctor := ["mtbl_writer_init_fd", "mtbl_writer_init"],
    handler := ["_mtbl_writer_write_data_block"],
    worker := [],
    callerPre := ["mtbl_writer_add", "_mtbl_writer_flush"],
    postJoin := ["_mtbl_writer_finish", "mtbl_writer_destroy"],
    immutable := ["fd", "opt", "opt.compression_type", "opt.compression_level", "opt.block_size",
                  "opt.block_restart_interval", "opt.pool", "pool", "m.file_version"] }

def sorterRoles : Roles :=
  { ctor := ["mtbl_sorter_init"],
    handler := ["_collect_readers_cb"],
    worker := ["_mtbl_sorter_write_chunk"],
    callerPre := ["mtbl_sorter_add", "_mtbl_sorter_flush", "_mtbl_sorter_get_entry_batch", "mtbl_sorter_write"],
    postJoin := ["mtbl_sorter_iter", "mtbl_sorter_destroy"],
    immutable := ["opt", "opt.tmp_dname", "opt.merge", "opt.merge_clos", "opt.max_memory", "opt.pool", "pool"] }

/-- every function that touches the object has a role -/
def classified (r : Roles) (sites : List Site) : Bool :=
  sites.all fun s => (r.ctor ++ r.handler ++ r.worker ++ r.callerPre ++ r.postJoin).contains s.fn

/-- fields the handler thread touches (read or write: several are pointers to containers it mutates) -/
def handlerFields (r : Roles) (sites : List Site) : List String :=
  (sites.filter fun s => r.handler.contains s.fn && !isMarker s).map (·.field)

/-- handler vs caller-before-join: a common field must be constructor-written only and read by both -/
def partitioned (r : Roles) (sites : List Site) : Bool :=
  sites.all fun a => !(r.handler.contains a.fn && !isMarker a) ||
    sites.all fun b => !(r.callerPre.contains b.fn && !isMarker b && ctx b != "nopool") ||
      a.field != b.field || (r.immutable.contains a.field && !a.write && !b.write)

/-- immutable fields are written by constructors only; workers only read immutable fields -/
def immutableOk (r : Roles) (sites : List Site) : Bool :=
  (sites.all fun s => !(r.immutable.contains s.field && s.write) || r.ctor.contains s.fn) &&
  (sites.all fun s => !(r.worker.contains s.fn && !isMarker s) || (r.immutable.contains s.field && !s.write))

/-- in `fn`, no handler field is touched before the first marker `mark` -/
def afterMarker (r : Roles) (sites : List Site) (fn mark : String) : Bool :=
  let own := sites.filter (·.fn == fn)
  own.any (·.field == mark) &&
  (own.takeWhile (·.field != mark)).all fun s => isMarker s || !(handlerFields r sites).contains s.field

/-- One statement per file, so that the kernel evaluates the table once: most of its work is turning the string
    literals into byte lists, which the six checks then share. -/
theorem writer_discipline :
    classified writerRoles writerSites = true ∧ partitioned writerRoles writerSites = true ∧
    immutableOk writerRoles writerSites = true ∧
    afterMarker writerRoles writerSites "_mtbl_writer_finish" "<join>" = true ∧
    afterMarker writerRoles writerSites "mtbl_writer_destroy" "<call:_mtbl_writer_finish>" = true ∧
    (handlerFields writerRoles writerSites).contains "pending_offset" = true := by decide +kernel

theorem writer_classified : classified writerRoles writerSites = true := writer_discipline.1
theorem writer_partitioned : partitioned writerRoles writerSites = true := writer_discipline.2.1
theorem writer_immutable : immutableOk writerRoles writerSites = true := writer_discipline.2.2.1
theorem writer_finish_joins_first : afterMarker writerRoles writerSites "_mtbl_writer_finish" "<join>" = true :=
  writer_discipline.2.2.2.1
theorem writer_destroy_finishes_first :
    afterMarker writerRoles writerSites "mtbl_writer_destroy" "<call:_mtbl_writer_finish>" = true :=
  writer_discipline.2.2.2.2.1

theorem sorter_discipline :
    classified sorterRoles sorterSites = true ∧ partitioned sorterRoles sorterSites = true ∧
    immutableOk sorterRoles sorterSites = true ∧
    afterMarker sorterRoles sorterSites "mtbl_sorter_iter" "<join>" = true ∧
    afterMarker sorterRoles sorterSites "mtbl_sorter_destroy" "<join>" = true ∧
    (handlerFields sorterRoles sorterSites).contains "readers" = true := by decide +kernel

theorem sorter_classified : classified sorterRoles sorterSites = true := sorter_discipline.1
theorem sorter_partitioned : partitioned sorterRoles sorterSites = true := sorter_discipline.2.1
theorem sorter_immutable : immutableOk sorterRoles sorterSites = true := sorter_discipline.2.2.1
theorem sorter_iter_joins_first : afterMarker sorterRoles sorterSites "mtbl_sorter_iter" "<join>" = true :=
  sorter_discipline.2.2.2.1
theorem sorter_destroy_joins_first : afterMarker sorterRoles sorterSites "mtbl_sorter_destroy" "<join>" = true :=
  sorter_discipline.2.2.2.2.1

theorem handler_fields_nonempty :
    (handlerFields writerRoles writerSites).contains "pending_offset" = true ∧
    (handlerFields sorterRoles sorterSites).contains "readers" = true :=
  ⟨writer_discipline.2.2.2.2.2, sorter_discipline.2.2.2.2.2⟩

/-- the CRC implementation pointer is assigned only by the detection function (a constructor, so before main; the
    first-call fallback `my_crc32c_first` calls the same function and stores the same value), and only to one of the two
    implementations -/
theorem crc_pointer_single_writer :
    crcDetectionIsConstructor = true ∧
    crcPointerWrites.all (fun w => (w.2.1 == "<init>" && w.2.2 == "my_crc32c_first") ||
      (w.1 == "libmy/crc32c.c" && w.2.1 == "my_crc32c_runtime_detection" &&
        (w.2.2 == "my_crc32c_sse42" || w.2.2 == "my_crc32c_slicing"))) = true := by decide +kernel

/-! ### mtbl/threadpool.c: where the condition variables are signalled -/

/-- the wake-up structure of threadpool.c as the proofs assume it: in particular the result handler signals `pool->c` after
    EVERY push onto the idle list (no enclosing condition) — the hypothesis of `TpShare.share_no_lost_wakeup` and of the
    single-client machine's `giveBack` step; the worker's and the dispatcher's queue signals sit under the
    unordered / ordered tests, everything else is unconditional -/
theorem signal_sites_as_modelled :
    signalSites = [("thread_worker", "rq", "if (rq != NULL)"), ("thread_worker", "thr", "else"),
                   ("threadpool_dispatch", "thr", ""), ("threadpool_dispatch", "rq", "if (ordered)"),
                   ("threadpool_destroy", "thr", "while (pool->count > 0)"), ("resultq_next", "pool", ""),
                   ("resultq_finish", "rq", "")] := rfl

/-- every `pthread_cond_signal(&x->c)` of threadpool.c is issued under `x->m` (why that matters: `C14_signals_under_mutex`) -/
theorem signals_under_their_mutex :
    signalLocks.length = signalSites.length ∧
    signalLocks.all (fun s => s.2.2.contains s.2.1) = true ∧
    signalLocks.map (fun s => (s.1, s.2.1)) = signalSites.map (fun s => (s.1, s.2.1)) :=
  ⟨rfl, by decide +kernel, rfl⟩

end Mtbl.Owner
