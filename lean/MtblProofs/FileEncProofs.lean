import MtblModel.Format
import MtblModel.Reader
import MtblProofs.TableDefs
import MtblProofs.BlockEncProofs
import MtblProofs.VarintProofs
import MtblProofs.OrderProofs
import MtblProofs.CrcProofs
import MtblProofs.OpenProofs
/-
  C11, first half ("R — every well-formed file is readable"):
  for every legal choice of encoding (`EFile.legal`), opening the encoded bytes with the reader model
  succeeds, and the opened reader satisfies `TableOK` for a table view whose entries are exactly the
  encoded entries.
-/
namespace Mtbl

namespace FileEnc

/-! ### the trailer -/

/-- the 512 trailer bytes with an arbitrary magic number -/
def mkTrailer (m : Meta) (magic : Nat) : Bytes :=
  let body := m.fields.flatMap fixed64
  body ++ List.replicate (METADATA_SIZE - body.length - 4) (0 : UInt8) ++ fixed32 magic

theorem write_eq (m : Meta) : Meta.write m = mkTrailer m MAGIC_V2 := rfl

theorem flatMap_fixed64_length (xs : List Nat) : (xs.flatMap fixed64).length = 8 * xs.length := by
  rw [BlockEnc.flatMap_const_length fixed64 8 fixed64_length, Nat.mul_comm]

theorem fields_length (m : Meta) : m.fields.length = 9 := rfl

theorem mkTrailer_length (m : Meta) (magic : Nat) : (mkTrailer m magic).length = 512 := by
  unfold mkTrailer
  simp only [List.length_append, List.length_replicate, flatMap_fixed64_length, fields_length,
    fixed32_length, METADATA_SIZE]

theorem dec64_flatMap (xs : List Nat) (r : Bytes) :
    ∀ (i : Nat) (hi : i < xs.length), dec64 ((xs.flatMap fixed64 ++ r).drop (8 * i)) = xs[i] % 2^64 := by
  induction xs with
  | nil => intro i hi; cases hi
  | cons x xs ih =>
    intro i hi
    rw [List.flatMap_cons, List.append_assoc]
    cases i with
    | zero =>
      rw [Nat.mul_zero, List.drop_zero, dec64_fixed64_mod]
      rfl
    | succ i =>
      have e : 8 * (i + 1) = 8 + 8 * i := by omega
      rw [e, ← List.drop_drop, List.drop_left' (fixed64_length x)]
      rw [ih i (by simpa using hi)]
      rfl

theorem magic_v1_lt : MAGIC_V1 < 2^32 := by decide
theorem magic_v2_lt : MAGIC_V2 < 2^32 := by decide

theorem mkTrailer_magic (m : Meta) (magic : Nat) (hm : magic < 2^32) :
    dec32 ((mkTrailer m magic).drop (METADATA_SIZE - 4)) = magic := by
  unfold mkTrailer
  have hl : (m.fields.flatMap fixed64 ++
      List.replicate (METADATA_SIZE - (m.fields.flatMap fixed64).length - 4) (0 : UInt8)).length
      = METADATA_SIZE - 4 := by
    simp only [List.length_append, List.length_replicate, flatMap_fixed64_length, fields_length,
      METADATA_SIZE]
  rw [List.drop_left' hl]
  have := dec32_fixed32 hm []
  rwa [List.append_nil] at this

theorem mkTrailer_field (m : Meta) (magic : Nat) (i : Nat)
    (hi : i < m.fields.length) : dec64 ((mkTrailer m magic).drop (8 * i)) = m.fields[i] % 2^64 := by
  unfold mkTrailer
  simp only [List.append_assoc]
  exact dec64_flatMap m.fields _ i hi

/-- the metadata with every field truncated to 64 bits (what survives a round trip through the trailer) -/
def trunc (m : Meta) : Meta :=
  { version := m.version,
    indexBlockOffset := m.indexBlockOffset % 2^64, dataBlockSize := m.dataBlockSize % 2^64,
    compression := m.compression % 2^64, countEntries := m.countEntries % 2^64,
    countDataBlocks := m.countDataBlocks % 2^64, bytesDataBlocks := m.bytesDataBlocks % 2^64,
    bytesIndexBlock := m.bytesIndexBlock % 2^64, bytesKeys := m.bytesKeys % 2^64,
    bytesValues := m.bytesValues % 2^64 }

theorem trunc_eq (m : Meta) (h : ∀ x ∈ m.fields, x < 2^64) : trunc m = m := by
  cases m
  simp only [Meta.fields, List.mem_cons, List.not_mem_nil, or_false, forall_eq_or_imp, forall_eq] at h
  obtain ⟨h0, h1, h2, h3, h4, h5, h6, h7, h8⟩ := h
  simp only [trunc, Nat.mod_eq_of_lt h0, Nat.mod_eq_of_lt h1, Nat.mod_eq_of_lt h2, Nat.mod_eq_of_lt h3,
    Nat.mod_eq_of_lt h4, Nat.mod_eq_of_lt h5, Nat.mod_eq_of_lt h6, Nat.mod_eq_of_lt h7, Nat.mod_eq_of_lt h8]

theorem read_mkTrailer_trunc (m : Meta) (magic : Nat) (ver : Version)
    (hv : (magic = MAGIC_V1 ∧ ver = .v1) ∨ (magic = MAGIC_V2 ∧ ver = .v2)) :
    Meta.read (mkTrailer m magic) = some { trunc m with version := ver } := by
  have hm : magic < 2^32 := by
    rcases hv with ⟨rfl, _⟩ | ⟨rfl, _⟩
    · exact magic_v1_lt
    · exact magic_v2_lt
  have f0 := mkTrailer_field m magic 0 (by rw [fields_length]; omega)
  have f1 := mkTrailer_field m magic 1 (by rw [fields_length]; omega)
  have f2 := mkTrailer_field m magic 2 (by rw [fields_length]; omega)
  have f3 := mkTrailer_field m magic 3 (by rw [fields_length]; omega)
  have f4 := mkTrailer_field m magic 4 (by rw [fields_length]; omega)
  have f5 := mkTrailer_field m magic 5 (by rw [fields_length]; omega)
  have f6 := mkTrailer_field m magic 6 (by rw [fields_length]; omega)
  have f7 := mkTrailer_field m magic 7 (by rw [fields_length]; omega)
  have f8 := mkTrailer_field m magic 8 (by rw [fields_length]; omega)
  simp only [Nat.mul_zero, List.drop_zero, Nat.mul_one, Nat.reduceMul] at f0 f1 f2 f3 f4 f5 f6 f7 f8
  unfold Meta.read
  simp only [mkTrailer_magic m magic hm, f0, f1, f2, f3, f4, f5, f6, f7, f8]
  rcases hv with ⟨rfl, rfl⟩ | ⟨rfl, rfl⟩
  · simp [Meta.fields, trunc]
  · have : MAGIC_V2 ≠ MAGIC_V1 := by decide
    simp [Meta.fields, trunc, this]

theorem read_mkTrailer (m : Meta) (h : ∀ x ∈ m.fields, x < 2^64) (magic : Nat) (ver : Version)
    (hv : (magic = MAGIC_V1 ∧ ver = .v1) ∨ (magic = MAGIC_V2 ∧ ver = .v2)) :
    Meta.read (mkTrailer m magic) = some { m with version := ver } := by
  rw [read_mkTrailer_trunc m magic ver hv, trunc_eq m h]

end FileEnc

open FileEnc in
/-- metadata_read inverts metadata_write (which always writes the v2 magic) -/
theorem Meta.read_write (m : Meta) (h : ∀ x ∈ m.fields, x < 2^64) :
    Meta.read (Meta.write m) = some { m with version := .v2 } := by
  rw [write_eq]
  exact read_mkTrailer m h MAGIC_V2 .v2 (Or.inr ⟨rfl, rfl⟩)

open FileEnc in
/-- the same trailer with the v1 magic (as `EFile.encode` writes it for a v1 file) reads back as v1 -/
theorem Meta.read_trailer_v1 (m : Meta) (h : ∀ x ∈ m.fields, x < 2^64) :
    Meta.read (mkTrailer m MAGIC_V1) = some { m with version := .v1 } :=
  read_mkTrailer m h MAGIC_V1 .v1 (Or.inl ⟨rfl, rfl⟩)

open FileEnc in
theorem Meta.write_length (m : Meta) : (Meta.write m).length = 512 := by
  rw [write_eq]; exact mkTrailer_length m MAGIC_V2

/-! ### structure of the encoded file -/

/-- the reader's version tag for an encoder version -/
def FVersion.toV : FVersion → Version
  | .v1 => .v1
  | .v2 => .v2

namespace FileEnc

/-- bytes of data block `b` as stored in the file (compressed unless `compression = 0`) -/
def stored (f : EFile) (comp : Bytes → Bytes) (b : EBlock) : Bytes :=
  if f.compression = 0 then b.encode f.thr else comp (b.encode f.thr)

/-- all data frames, concatenated -/
def fdata (f : EFile) (comp : Bytes → Bytes) : Bytes := (f.dataFrames comp).flatMap id

/-- the frame of the index block (never compressed) -/
def idxFrame (f : EFile) (comp : Bytes → Bytes) : Bytes :=
  eframe f.version ((f.indexBlock comp).encode f.thr)

/-- the metadata `EFile.encode` stores in the trailer -/
def fmeta (f : EFile) (comp : Bytes → Bytes) : Meta :=
  { version := f.version.toV,
    indexBlockOffset := f.pre.length + (fdata f comp).length, dataBlockSize := f.blockSizeField,
    compression := f.compression, countEntries := (f.blocks.flatMap (·.entries)).length,
    countDataBlocks := f.blocks.length, bytesDataBlocks := (fdata f comp).length,
    bytesIndexBlock := (idxFrame f comp).length,
    bytesKeys := ((f.blocks.flatMap (·.entries)).map (·.key.length)).sum,
    bytesValues := ((f.blocks.flatMap (·.entries)).map (·.val.length)).sum }

def fmagic (f : EFile) : Nat := match f.version with | .v1 => MAGIC_V1 | .v2 => MAGIC_V2

/-- the 512 trailer bytes of the encoded file -/
def trailer (f : EFile) (comp : Bytes → Bytes) : Bytes := mkTrailer (fmeta f comp) (fmagic f)

/-- the index offset stored in the trailer -/
def indexOff (f : EFile) (comp : Bytes → Bytes) : Nat := f.pre.length + (fdata f comp).length

/-- file offsets of the data frames -/
def offs (f : EFile) (comp : Bytes → Bytes) : List Nat := frameOffsets f.pre.length (f.dataFrames comp)

theorem dataFrames_eq (f : EFile) (comp : Bytes → Bytes) :
    f.dataFrames comp = f.blocks.map fun b => eframe f.version (stored f comp b) := rfl

theorem encode_eq (f : EFile) (comp : Bytes → Bytes) :
    f.encode comp = f.pre ++ fdata f comp ++ idxFrame f comp ++ trailer f comp := rfl

theorem trailer_length (f : EFile) (comp : Bytes → Bytes) : (trailer f comp).length = 512 :=
  mkTrailer_length _ _

theorem encode_length (f : EFile) (comp : Bytes → Bytes) :
    (f.encode comp).length = indexOff f comp + (idxFrame f comp).length + 512 := by
  rw [encode_eq]
  simp only [List.length_append, trailer_length, indexOff]

theorem encode_drop_index (f : EFile) (comp : Bytes → Bytes) :
    (f.encode comp).drop (indexOff f comp) = idxFrame f comp ++ trailer f comp := by
  rw [encode_eq, List.append_assoc]
  exact List.drop_left' (by simp only [List.length_append, indexOff])

theorem encode_drop_trailer (f : EFile) (comp : Bytes → Bytes) :
    (f.encode comp).drop ((f.encode comp).length - 512) = trailer f comp := by
  have h : (f.encode comp).length - 512 = (f.pre ++ fdata f comp ++ idxFrame f comp).length := by
    rw [encode_length]; simp only [List.length_append, indexOff]; omega
  rw [h, encode_eq]
  exact List.drop_left

theorem flatMap_split (frs : List Bytes) : ∀ (j : Nat) (fr : Bytes), frs[j]? = some fr →
    frs.flatMap id = (frs.take j).flatMap id ++ fr ++ (frs.drop (j + 1)).flatMap id := by
  induction frs with
  | nil => intro j fr h; simp at h
  | cons a frs ih =>
    intro j fr h
    cases j with
    | zero =>
      simp only [List.getElem?_cons_zero, Option.some.injEq] at h
      subst h
      simp
    | succ j =>
      simp only [List.getElem?_cons_succ] at h
      simp only [List.take_succ_cons, List.flatMap_cons, List.drop_succ_cons, id, List.append_assoc]
      rw [ih j fr h]
      simp only [List.append_assoc]

theorem dataFrames_getElem? (f : EFile) (comp : Bytes → Bytes) (j : Nat) (b : EBlock) (hb : f.blocks[j]? = some b) :
    (f.dataFrames comp)[j]? = some (eframe f.version (stored f comp b)) := by
  rw [dataFrames_eq, List.getElem?_map, hb]
  rfl

theorem encode_drop_frame (f : EFile) (comp : Bytes → Bytes) (j : Nat) (fr : Bytes) (off : Nat)
    (hfr : (f.dataFrames comp)[j]? = some fr) (hoff : (offs f comp)[j]? = some off) :
    ∃ rest, (f.encode comp).drop off = fr ++ rest ∧ off + fr.length ≤ indexOff f comp := by
  have hj : j < (f.dataFrames comp).length := BlockEnc.lt_of_getElem? _ _ _ hfr
  have ho := frameOffsets_getElem? (f.dataFrames comp) f.pre.length j hj
  unfold offs at hoff
  rw [ho] at hoff
  have hoff := Option.some.inj hoff
  have hs := flatMap_split (f.dataFrames comp) j fr hfr
  refine ⟨((f.dataFrames comp).drop (j + 1)).flatMap id ++ idxFrame f comp ++ trailer f comp, ?_, ?_⟩
  · rw [encode_eq]
    unfold fdata
    rw [hs]
    have e : f.pre ++ (((f.dataFrames comp).take j).flatMap id ++ fr ++
          ((f.dataFrames comp).drop (j + 1)).flatMap id) ++ idxFrame f comp ++ trailer f comp
        = (f.pre ++ ((f.dataFrames comp).take j).flatMap id) ++
          (fr ++ (((f.dataFrames comp).drop (j + 1)).flatMap id ++ idxFrame f comp ++ trailer f comp)) := by
      simp only [List.append_assoc]
    rw [e]
    exact List.drop_left' (by rw [List.length_append]; exact hoff)
  · unfold indexOff fdata
    rw [hs]
    simp only [List.length_append]
    omega

def lenPrefix (ver : FVersion) (n : Nat) : Bytes := match ver with | .v1 => fixed32 n | .v2 => venc n
def prefixLen (ver : FVersion) (n : Nat) : Nat := match ver with | .v1 => 4 | .v2 => vlen n

theorem eframe_eq (ver : FVersion) (s : Bytes) :
    eframe ver s = lenPrefix ver s.length ++ (fixed32 (crc32c s) ++ s) := by
  unfold eframe lenPrefix
  rw [List.append_assoc]
  cases ver <;> rfl

theorem lenPrefix_length (ver : FVersion) (n : Nat) : (lenPrefix ver n).length = prefixLen ver n := by
  cases ver
  · rfl
  · exact venc_length n

theorem prefixLen_pos (ver : FVersion) (n : Nat) : 0 < prefixLen ver n := by
  cases ver
  · show 0 < 4; omega
  · exact vlen_pos n

theorem eframe_length (ver : FVersion) (s : Bytes) :
    (eframe ver s).length = prefixLen ver s.length + 4 + s.length := by
  rw [eframe_eq]
  simp only [List.length_append, lenPrefix_length, fixed32_length]
  omega

/-! ### one frame with an arbitrary checksum field, as the reader, the open and the sweep parse it -/

/-- a frame whose checksum field is arbitrary: `prefix(len) ++ field ++ body` -/
def gframe (ver : FVersion) (field body : Bytes) : Bytes := lenPrefix ver body.length ++ (field ++ body)

theorem gframe_length (ver : FVersion) (field body : Bytes) (hf : field.length = 4) :
    (gframe ver field body).length = prefixLen ver body.length + 4 + body.length := by
  unfold gframe
  simp only [List.length_append, lenPrefix_length, hf]
  omega

theorem eframe_gframe (ver : FVersion) (s : Bytes) : eframe ver s = gframe ver (fixed32 (crc32c s)) s :=
  eframe_eq ver s

/-- everything the reader computes from the bytes of one (possibly damaged) frame found at `off` -/
theorem gframe_parse (file : Bytes) (off : Nat) (ver : FVersion) (field body rest : Bytes)
    (h : file.drop off = gframe ver field body ++ rest) (hf : field.length = 4)
    (h64 : body.length < 2^64) (h32 : ver = .v1 → body.length < 2^32) :
    off + prefixLen ver body.length + 4 + body.length + rest.length = file.length ∧
    (if ver.toV = .v1 then (dec32 (file.drop off), 4) else vdecode64 (file.drop off))
      = (body.length, prefixLen ver body.length) ∧
    rdAt file (off + prefixLen ver body.length + 4) body.length = some body ∧
    (file.drop (off + prefixLen ver body.length + 4)).take body.length = body ∧
    dec32 (file.drop (off + prefixLen ver body.length)) = dec32 field := by
  have hpos := prefixLen_pos ver body.length
  have hlen : off + prefixLen ver body.length + 4 + body.length + rest.length = file.length := by
    have := congrArg List.length h
    rw [List.length_drop, List.length_append, gframe_length _ _ _ hf] at this
    omega
  have hd1 : file.drop (off + prefixLen ver body.length) = field ++ (body ++ rest) := by
    rw [← List.drop_drop, h]
    unfold gframe
    simp only [List.append_assoc]
    exact List.drop_left' (lenPrefix_length ver body.length)
  have hd2 : file.drop (off + prefixLen ver body.length + 4) = body ++ rest := by
    rw [← List.drop_drop, hd1]
    exact List.drop_left' hf
  refine ⟨hlen, ?_, ?_, ?_, ?_⟩
  · rw [h]
    unfold gframe
    rw [List.append_assoc]
    cases ver with
    | v1 =>
      rw [if_pos (show FVersion.v1.toV = Version.v1 from rfl)]
      show (dec32 (fixed32 body.length ++ _), 4) = (body.length, 4)
      rw [dec32_fixed32 (h32 rfl)]
    | v2 =>
      rw [if_neg (by simp [FVersion.toV])]
      show vdecode64 (venc body.length ++ _) = (body.length, vlen body.length)
      exact vdecode64_venc h64 _
  · unfold rdAt
    rw [if_pos (by omega), hd2, List.take_left]
  · rw [hd2, List.take_left]
  · rw [hd1, dec32_append4 _ _ hf]

theorem frame_parse (file : Bytes) (off : Nat) (ver : FVersion) (s rest : Bytes)
    (h : file.drop off = eframe ver s ++ rest)
    (h64 : s.length < 2^64) (h32 : ver = .v1 → s.length < 2^32) :
    off + prefixLen ver s.length + 4 + s.length + rest.length = file.length ∧
    (if ver.toV = .v1 then (dec32 (file.drop off), 4) else vdecode64 (file.drop off))
      = (s.length, prefixLen ver s.length) ∧
    rdAt file (off + prefixLen ver s.length + 4) s.length = some s ∧
    dec32 (file.drop (off + prefixLen ver s.length)) = crc32c s := by
  obtain ⟨h1, h2, h3, _, h5⟩ :=
    gframe_parse file off ver (fixed32 (crc32c s)) s rest (eframe_gframe ver s ▸ h) (fixed32_length _) h64 h32
  exact ⟨h1, h2, h3, h5.trans (dec32_fixed32' (CrcP.crc32c_lt s))⟩

/-- get_block on a frame: the length prefix, the bounds check and the (optional) CRC check all pass;
    what remains is decompression and `block_init` -/
theorem getBlock_frame (r : Rd) (off : Nat) (ver : FVersion) (s rest : Bytes)
    (h : r.data.drop off = eframe ver s ++ rest) (hver : r.m.version = ver.toV)
    (h64 : s.length < 2^64) (h32 : ver = .v1 → s.length < 2^32) :
    getBlock r off =
      match (if r.m.compression = 0 then some s else r.decomp r.m.compression s) with
      | none => none
      | some c => blockInit r.thr c := by
  obtain ⟨hlen, hpre, hrd, hcrc⟩ := frame_parse r.data off ver s rest h h64 h32
  have hpos := prefixLen_pos ver s.length
  rw [← hver] at hpre
  unfold getBlock
  rw [if_neg (by omega)]
  simp only [hpre, hrd, hcrc, ne_eq, not_true_eq_false, and_false, if_false]
  generalize (if r.m.compression = 0 then some s else r.decomp r.m.compression s) = o
  cases o <;> rfl

end FileEnc

open FileEnc in
/-- get_block at the offset of data block `j` of an encoded file yields `block_init` of the block's
    bytes — with or without checksum verification, compressed or not -/
theorem eframe_getBlock (f : EFile) (comp : Bytes → Bytes) (r : Rd) (j : Nat) (b : EBlock) (off : Nat)
    (hdata : r.data = f.encode comp) (hver : r.m.version = f.version.toV)
    (hcomp : r.m.compression = f.compression) (hthr : r.thr = f.thr)
    (hcodec : f.compression ≠ 0 → ∀ raw, r.decomp f.compression (comp raw) = some raw)
    (hb : f.blocks[j]? = some b) (hoff : (offs f comp)[j]? = some off)
    (h64 : (stored f comp b).length < 2^64)
    (h32 : f.version = .v1 → (stored f comp b).length < 2^32) :
    getBlock r off = blockInit f.thr (b.encode f.thr) := by
  obtain ⟨rest, hdrop, _⟩ := encode_drop_frame f comp j _ off (dataFrames_getElem? f comp j b hb) hoff
  rw [← hdata] at hdrop
  rw [getBlock_frame r off f.version _ rest hdrop hver h64 h32, hcomp, hthr]
  unfold stored
  by_cases hc : f.compression = 0
  · simp only [hc, if_true]
  · simp only [hc, if_false, hcodec hc]

/-! ### opening the encoded file -/

namespace FileEnc

/-- the metadata the reader holds after opening the encoded file -/
def rmeta (f : EFile) (comp : Bytes → Bytes) : Meta :=
  { trunc (fmeta f comp) with version := f.version.toV }

theorem trailer_read (f : EFile) (comp : Bytes → Bytes) :
    Meta.read (trailer f comp) = some (rmeta f comp) := by
  unfold trailer rmeta
  apply read_mkTrailer_trunc
  unfold fmagic
  cases f.version
  · exact Or.inl ⟨rfl, rfl⟩
  · exact Or.inr ⟨rfl, rfl⟩

theorem rmeta_eq (f : EFile) (comp : Bytes → Bytes) (h : ∀ x ∈ (fmeta f comp).fields, x < 2^64) :
    rmeta f comp = fmeta f comp := by
  unfold rmeta
  rw [trunc_eq _ h]
  rfl

/-- bytes of the index block as stored -/
def idxStored (f : EFile) (comp : Bytes → Bytes) : Bytes := (f.indexBlock comp).encode f.thr

theorem idxFrame_eq (f : EFile) (comp : Bytes → Bytes) :
    idxFrame f comp = eframe f.version (idxStored f comp) := rfl

theorem openTail_ok (thr : Nat) (decomp : Nat → Bytes → Option Bytes) (verify : Bool) (file : Bytes)
    (m : Meta) (io ilen ill : Nat) (body : Bytes) (b : Blk)
    (hrd : rdAt file (io + ill + 4) ilen = some body)
    (hcrc : dec32 (file.drop (io + ill)) = crc32c body)
    (h8 : 8 ≤ ilen) (hb : blockInit thr body = some b) :
    OpenProofs.openTail thr decomp verify file m io ilen ill =
      .ok { data := file, m, verify, thr, decomp, index := b } := by
  have h4 : ¬ ilen < 4 := by omega
  have h8' : ¬ ilen < 8 := by omega
  unfold OpenProofs.openTail
  simp only [hrd, hcrc, if_true, ite_self, h4, h8', if_false, hb]

theorem take10 (v : Nat) (hv : v < 2^64) (rest : Bytes) :
    vdecode64 ((venc v ++ rest).take 10) = (v, vlen v) := by
  rw [List.take_append, List.take_of_length_le (by rw [venc_length]; exact vlen_le10 hv)]
  exact vdecode64_venc hv _

/-- the open of any file that ends with a frame (arbitrary checksum field and body of at least 8 bytes)
    followed by the trailer of `f`, with as many bytes before the frame as the trailer says: the trailer
    reads back, the `end` test and the F9 length test pass, and what remains is the checksum step and
    `block_init` on the body (`openTail`) -/
theorem open_gen (f : EFile) (comp : Bytes → Bytes) (decomp : Nat → Bytes → Option Bytes) (verify : Bool)
    (file P field body : Bytes)
    (hfile : file = P ++ (gframe f.version field body ++ trailer f comp))
    (hP : P.length = indexOff f comp) (hf : field.length = 4)
    (hsize : file.length < 2^64) (h8 : 8 ≤ body.length)
    (h32 : f.version = .v1 → body.length < 2^32) :
    readerOpen true f.thr decomp verify file =
      OpenProofs.openTail f.thr decomp verify file (rmeta f comp) (indexOff f comp) body.length
        (prefixLen f.version body.length) ∧
    rdAt file (indexOff f comp + prefixLen f.version body.length + 4) body.length = some body ∧
    dec32 (file.drop (indexOff f comp + prefixLen f.version body.length)) = dec32 field := by
  have hfl := gframe_length f.version field body hf
  have hlen : file.length = indexOff f comp + (gframe f.version field body).length + 512 := by
    rw [hfile]
    simp only [List.length_append, trailer_length, hP]
    omega
  have p64 : (2:Nat)^64 = 18446744073709551616 := by decide
  have hdropT : file.drop (file.length - METADATA_SIZE) = trailer f comp := by
    have h : file.length - METADATA_SIZE = (P ++ gframe f.version field body).length := by
      rw [hlen, List.length_append, hP]; show _ + 512 - 512 = _; omega
    rw [h, hfile, ← List.append_assoc]
    exact List.drop_left
  have hio : (rmeta f comp).indexBlockOffset = indexOff f comp := by
    show (f.pre.length + (fdata f comp).length) % 2^64 = indexOff f comp
    unfold indexOff at hlen ⊢
    exact Nat.mod_eq_of_lt (by omega)
  have hv : (rmeta f comp).version = f.version.toV := rfl
  have hdropI : file.drop (indexOff f comp) = gframe f.version field body ++ trailer f comp := by
    rw [hfile]
    exact List.drop_left' hP
  have h64 : body.length < 2^64 := by omega
  obtain ⟨_, hpre, hrd, _, hcrc⟩ :=
    gframe_parse file (indexOff f comp) f.version field body (trailer f comp) hdropI hf h64 h32
  have hmin : (if f.version.toV = Version.v1 then 16 else 13) ≤ (gframe f.version field body).length := by
    rw [hfl]
    cases f.version
    · show 16 ≤ 4 + 4 + _; omega
    · have := vlen_pos body.length
      show 13 ≤ vlen _ + 4 + _
      omega
  have hp : OpenProofs.openPrefix file (rmeta f comp) = (body.length, prefixLen f.version body.length) := by
    unfold OpenProofs.openPrefix
    rw [hio, hv, hdropI]
    cases hver : f.version with
    | v1 =>
      rw [hver] at hpre hdropI
      rw [← hdropI]
      exact hpre
    | v2 =>
      rw [if_neg (by simp [FVersion.toV])]
      unfold gframe
      rw [List.append_assoc]
      exact take10 _ h64 _
  refine ⟨?_, hrd, hcrc⟩
  rw [OpenProofs.readerOpen_eq]
  simp only [hdropT, trailer_read, hio, hv, hp]
  have hM : METADATA_SIZE = 512 := rfl
  have hU : U64 = 18446744073709551616 := rfl
  rw [if_neg (by omega)]
  have hend : (indexOff f comp + METADATA_SIZE + (if f.version.toV = Version.v1 then 16 else 13)) % U64
      = indexOff f comp + METADATA_SIZE + (if f.version.toV = Version.v1 then 16 else 13) := by
    apply Nat.mod_eq_of_lt
    omega
  rw [hend, if_neg (by omega), if_neg (by omega)]

theorem open_index (f : EFile) (comp : Bytes → Bytes) (decomp : Nat → Bytes → Option Bytes)
    (verify : Bool) (hsize : (f.encode comp).length < 2^64)
    (h8 : 8 ≤ (idxStored f comp).length)
    (h32 : f.version = .v1 → (idxStored f comp).length < 2^32)
    (b : Blk) (hb : blockInit f.thr (idxStored f comp) = some b) :
    readerOpen true f.thr decomp verify (f.encode comp) =
      .ok { data := f.encode comp, m := rmeta f comp, verify, thr := f.thr, decomp, index := b } := by
  obtain ⟨ho, hrd, hcrc⟩ := open_gen f comp decomp verify (f.encode comp) (f.pre ++ fdata f comp)
    (fixed32 (crc32c (idxStored f comp))) (idxStored f comp)
    (by rw [← eframe_gframe, ← idxFrame_eq, encode_eq]; simp only [List.append_assoc])
    List.length_append (fixed32_length _) hsize h8 h32
  rw [ho]
  exact openTail_ok _ _ _ _ _ _ _ _ _ b hrd (hcrc.trans (dec32_fixed32' (CrcP.crc32c_lt _))) h8 hb


/-- **Structure of the encoded file**: the four parts, the trailer is 512 bytes and
    reads back as `rmeta` whose index offset is the length of everything before the index frame, and
    the offsets computed by `frameOffsets` are where the frames really start. -/
theorem encode_structure (f : EFile) (comp : Bytes → Bytes) :
    f.encode comp = f.pre ++ fdata f comp ++ idxFrame f comp ++ trailer f comp ∧
    fdata f comp = (f.dataFrames comp).flatMap id ∧
    idxFrame f comp = eframe f.version ((f.indexBlock comp).encode f.thr) ∧
    (trailer f comp).length = 512 ∧
    (f.encode comp).length = f.pre.length + (fdata f comp).length + (idxFrame f comp).length + 512 ∧
    (f.encode comp).drop ((f.encode comp).length - 512) = trailer f comp ∧
    Meta.read (trailer f comp) = some (rmeta f comp) ∧
    (rmeta f comp).version = f.version.toV ∧
    (rmeta f comp).indexBlockOffset = (f.pre.length + (fdata f comp).length) % 2^64 ∧
    (f.encode comp).drop (f.pre.length + (fdata f comp).length) = idxFrame f comp ++ trailer f comp ∧
    ∀ (j : Nat) (fr : Bytes) (off : Nat), (f.dataFrames comp)[j]? = some fr →
      (frameOffsets f.pre.length (f.dataFrames comp))[j]? = some off →
      ∃ rest, (f.encode comp).drop off = fr ++ rest ∧
        off + fr.length ≤ f.pre.length + (fdata f comp).length :=
  ⟨rfl, rfl, rfl, trailer_length f comp, encode_length f comp, encode_drop_trailer f comp,
   trailer_read f comp, rfl, rfl, encode_drop_index f comp,
   fun j fr off hfr hoff => encode_drop_frame f comp j fr off hfr hoff⟩

/-! ### `EFile.legal` as a proposition -/

structure FLegalP (f : EFile) (comp : Bytes → Bytes) : Prop where
  blocks : ∀ b ∈ f.blocks, b.legal = true ∧ b.items ≠ []
  seps_len : f.seps.length = f.blocks.length
  index : (f.indexBlock comp).legal = true
  chain : ∀ j b, f.blocks[j]? = some b → ∃ last sep, b.items.getLast? = some last ∧
    f.seps[j]? = some sep ∧ bcmp last.e.key sep ≠ .gt ∧
    ∀ nb, f.blocks[j + 1]? = some nb → ∃ fst, nb.items.head? = some fst ∧ bcmp sep fst.e.key = .lt

theorem legalP_of_legal (f : EFile) (comp : Bytes → Bytes) (h : f.legal comp = true) : FLegalP f comp := by
  unfold EFile.legal at h
  simp only [Bool.and_eq_true, beq_iff_eq] at h
  obtain ⟨⟨⟨h1, h2⟩, h3⟩, h4⟩ := h
  refine ⟨?_, h2, h3, ?_⟩
  · intro b hb
    have := List.all_eq_true.mp h1 b hb
    simp only [Bool.and_eq_true, Bool.not_eq_true', List.isEmpty_eq_false_iff] at this
    exact this
  · intro j b hb
    have := List.all_eq_true.mp h4 (b, j) (List.mem_zipIdx_iff_getElem?.mpr hb)
    simp only [] at this
    cases hgl : b.items.getLast? with
    | none => rw [hgl] at this; simp at this
    | some last =>
      cases hsp : f.seps[j]? with
      | none => rw [hgl, hsp] at this; simp at this
      | some sep =>
        rw [hgl, hsp] at this
        simp only [Bool.and_eq_true] at this
        obtain ⟨hle, hnext⟩ := this
        refine ⟨last, sep, rfl, rfl, ?_, ?_⟩
        · unfold ble at hle
          simpa using hle
        · intro nb hnb
          rw [hnb] at hnext
          simp only [] at hnext
          cases hh : nb.items.head? with
          | none => rw [hh] at hnext; simp at hnext
          | some fst =>
            rw [hh] at hnext
            refine ⟨fst, rfl, ?_⟩
            unfold blt at hnext
            simpa using hnext

theorem offs_length (f : EFile) (comp : Bytes → Bytes) : (offs f comp).length = f.blocks.length := by
  unfold offs
  rw [frameOffsets_length, dataFrames_eq, List.length_map]

theorem offs_pairwise (f : EFile) (comp : Bytes → Bytes) : (offs f comp).Pairwise (· < ·) := by
  apply frameOffsets_pairwise
  intro fr hfr
  rw [dataFrames_eq, List.mem_map] at hfr
  obtain ⟨b, _, rfl⟩ := hfr
  rw [eframe_length]
  have := prefixLen_pos f.version (stored f comp b).length
  omega

theorem indexBlock_length (f : EFile) (comp : Bytes → Bytes) (h : f.seps.length = f.blocks.length) :
    (f.indexBlock comp).items.length = f.blocks.length := by
  have := offs_length f comp
  unfold offs at this
  simp only [EFile.indexBlock, List.length_map, List.length_zipIdx, List.length_zip, this, h]
  omega

theorem indexBlock_item (f : EFile) (comp : Bytes → Bytes) (j : Nat) (sep : Bytes) (off : Nat)
    (hs : f.seps[j]? = some sep) (ho : (offs f comp)[j]? = some off) :
    (f.indexBlock comp).items[j]? =
      some { shared := f.indexShared.getD j 0, e := { key := sep, val := venc off } } := by
  have hz : (f.seps.zip (offs f comp))[j]? = some (sep, off) := List.getElem?_zip_eq_some.mpr ⟨hs, ho⟩
  unfold offs at hz
  simp only [EFile.indexBlock, List.getElem?_map, List.getElem?_zipIdx, hz, Option.map_some,
    Nat.zero_add]

/-- the entries of a legal file are sorted: each block is, and block `j` ≤ `sep j` < block `j + 1` -/
theorem sorted_of_legal (f : EFile) (comp : Bytes → Bytes) (hl : FLegalP f comp) : StrictSorted f.entries := by
  have hsorted : ∀ b ∈ f.blocks, StrictSorted b.entries := fun b hb =>
    BlockEnc.sorted_encode b ((BlockEnc.legal_iff b).mp (hl.blocks b hb).1)
  unfold EFile.entries
  rw [List.flatMap_def]
  apply sorted_flatten
  · intro l hl'
    obtain ⟨b, hb, rfl⟩ := List.mem_map.mp hl'
    exact hsorted b hb
  · intro i hi
    rw [List.length_map] at hi
    simp only [List.getElem_map]
    obtain ⟨last, sep, hlast, _, hle, hnext⟩ := hl.chain i _ (List.getElem?_eq_getElem (by omega))
    obtain ⟨fst, hfst, hlt⟩ := hnext _ (List.getElem?_eq_getElem hi)
    refine ⟨fun h => ?_, fun x hx y hy => ?_⟩
    · rw [EBlock.entries, List.map_eq_nil_iff] at h
      rw [h] at hfst
      cases hfst
    · have h1 := sorted_le_last _ (hsorted _ (List.getElem_mem _)) last.e
        (by rw [EBlock.entries, List.getLast?_map, hlast]; rfl) x hx
      have h2 := sorted_ge_first _ (hsorted _ (List.getElem_mem hi)) fst.e
        (by rw [EBlock.entries, List.head?_map, hfst]; rfl) y hy
      exact bcmp_le_lt_trans (bcmp_le_trans h1 hle) (bcmp_lt_le_trans hlt h2)


/-! ### the table view of an encoded file -/

/-- the block `block_init` builds from the bytes of an encoder block -/
def blkOf (thr : Nat) (b : EBlock) : Blk :=
  { data := b.encode thr, size := (b.encode thr).length, restartOffset := b.region.length, thr := thr }

theorem encode_ok' (thr : Nat) (b : EBlock) (hl : b.legal = true) (hthr : thr < 2^32)
    (hsize : (b.encode thr).length < 2^64) (hnr : b.restarts.length < 2^32 - 1) :
    blockInit thr (b.encode thr) = some (blkOf thr b) ∧ BlockOK (blkOf thr b) b.view :=
  have hl := (BlockEnc.legal_iff b).mp hl
  ⟨BlockEnc.blockInit_encode thr b hl.restarts_pos hsize hnr, BlockEnc.blockOK_encode thr b hl hthr hsize (by omega)⟩

theorem idxStored_lt (f : EFile) (comp : Bytes → Bytes) (hsize : (f.encode comp).length < 2^64) :
    (idxStored f comp).length < 2^64 := by
  have := encode_length f comp
  have := eframe_length f.version (idxStored f comp)
  rw [← idxFrame_eq] at this
  omega

/-- the decoded content of the encoded file -/
def tview (f : EFile) (comp : Bytes → Bytes) : TableView :=
  { blocks := f.blocks.map fun b => (blkOf f.thr b, b.view),
    offs := offs f comp,
    index := (blkOf f.thr (f.indexBlock comp), (f.indexBlock comp).view) }

theorem tview_nb (f : EFile) (comp : Bytes → Bytes) : (tview f comp).nb = f.blocks.length := by
  simp only [TableView.nb, tview, List.length_map]

theorem tview_blk (f : EFile) (comp : Bytes → Bytes) (j : Nat) (b : EBlock) (hb : f.blocks[j]? = some b) :
    (tview f comp).blk j = blkOf f.thr b := by
  simp only [TableView.blk, tview, List.getD_eq_getElem?_getD, List.getElem?_map, hb, Option.map_some,
    Option.getD_some]

theorem tview_view (f : EFile) (comp : Bytes → Bytes) (j : Nat) (b : EBlock) (hb : f.blocks[j]? = some b) :
    (tview f comp).view j = b.view := by
  simp only [TableView.view, tview, List.getD_eq_getElem?_getD, List.getElem?_map, hb, Option.map_some,
    Option.getD_some]

theorem tview_off (f : EFile) (comp : Bytes → Bytes) (j : Nat) (off : Nat)
    (ho : (offs f comp)[j]? = some off) : (tview f comp).off j = off := by
  simp only [TableView.off, tview, List.getD_eq_getElem?_getD, ho, Option.getD_some]

theorem tview_entries (f : EFile) (comp : Bytes → Bytes) : (tview f comp).entries = f.entries := by
  simp only [TableView.entries, tview, EFile.entries, List.flatMap_map, EBlock.view_ents]

theorem tview_sep (f : EFile) (comp : Bytes → Bytes) (j : Nat) (sep : Bytes) (off : Nat)
    (hs : f.seps[j]? = some sep) (ho : (offs f comp)[j]? = some off) : (tview f comp).sep j = sep := by
  show (f.indexBlock comp).view.key j = sep
  rw [EBlock.view_key_of _ j _ (indexBlock_item f comp j sep off hs ho)]

theorem tview_index_val (f : EFile) (comp : Bytes → Bytes) (j : Nat) (sep : Bytes) (off : Nat)
    (hs : f.seps[j]? = some sep) (ho : (offs f comp)[j]? = some off) :
    (tview f comp).index.2.val j = venc off := by
  show (f.indexBlock comp).view.val j = venc off
  rw [EBlock.view_val_of _ j _ (indexBlock_item f comp j sep off hs ho)]

/-- the reader obtained by opening the encoded file -/
def openedRd (f : EFile) (comp : Bytes → Bytes) (decomp : Nat → Bytes → Option Bytes) (verify : Bool) : Rd :=
  { data := f.encode comp, m := rmeta f comp, verify := verify, thr := f.thr, decomp := decomp,
    index := blkOf f.thr (f.indexBlock comp) }

theorem getLast?_getD {α : Type} (l : List α) (x d : α) (h : l.getLast? = some x) :
    l.getD (l.length - 1) d = x := by
  rw [List.getLast?_eq_getElem?] at h
  rw [List.getD_eq_getElem?_getD, h]; rfl

theorem head?_getD {α : Type} (l : List α) (x d : α) (h : l.head? = some x) : l.getD 0 d = x := by
  rw [List.head?_eq_getElem?] at h
  rw [List.getD_eq_getElem?_getD, h]; rfl

theorem tableOK_encode (f : EFile) (comp : Bytes → Bytes) (decomp : Nat → Bytes → Option Bytes)
    (verify : Bool) (hl : f.legal comp = true)
    (hcodec : f.compression ≠ 0 → ∀ raw, decomp f.compression (comp raw) = some raw)
    (hthr : f.thr < 2^32) (hsize : (f.encode comp).length < 2^64)
    (hnr : ∀ b ∈ f.blocks, b.restarts.length < 2^32 - 1) (hnri : f.indexRestarts.length < 2^32 - 1)
    (hraw : f.compression ≠ 0 → ∀ b ∈ f.blocks, (b.encode f.thr).length < 2^64)
    (hv1 : f.version = .v1 → ∀ b ∈ f.blocks, (stored f comp b).length < 2^32)
    (hcompr : f.compression < 2^64) :
    TableOK (openedRd f comp decomp verify) (tview f comp) := by
  have hL := legalP_of_legal f comp hl
  have hlen := encode_length f comp
  obtain ⟨_, hidxok⟩ := encode_ok' f.thr (f.indexBlock comp) hL.index hthr (idxStored_lt f comp hsize) hnri
  -- data block `j`: the block, its offset, and what `tview` shows of them
  have hget : ∀ j, j < (tview f comp).nb → ∃ b off, f.blocks[j]? = some b ∧ b ∈ f.blocks ∧
      (offs f comp)[j]? = some off ∧ (tview f comp).blk j = blkOf f.thr b ∧ (tview f comp).view j = b.view ∧
      (tview f comp).off j = off := by
    intro j hj
    rw [tview_nb] at hj
    obtain ⟨b, hb⟩ := BlockEnc.getElem?_of_lt f.blocks j hj
    obtain ⟨off, ho⟩ := BlockEnc.getElem?_of_lt (offs f comp) j (by rw [offs_length]; exact hj)
    exact ⟨b, off, hb, List.mem_of_getElem? hb, ho, tview_blk f comp j b hb, tview_view f comp j b hb,
      tview_off f comp j off ho⟩
  have hframe : ∀ (j : Nat) (b : EBlock) (off : Nat), f.blocks[j]? = some b → (offs f comp)[j]? = some off →
      off + prefixLen f.version (stored f comp b).length + 4 + (stored f comp b).length ≤ indexOff f comp := by
    intro j b off hb ho
    obtain ⟨_, _, hle⟩ := encode_drop_frame f comp j _ off (dataFrames_getElem? f comp j b hb) ho
    rw [eframe_length] at hle
    omega
  have hbsize : ∀ b ∈ f.blocks, (b.encode f.thr).length < 2^64 := by
    intro b hbm
    by_cases hc : f.compression = 0
    · obtain ⟨j, hj, rfl⟩ := List.mem_iff_getElem.mp hbm
      obtain ⟨off, ho⟩ := BlockEnc.getElem?_of_lt (offs f comp) j (by rw [offs_length]; exact hj)
      have := hframe j f.blocks[j] off (List.getElem?_eq_getElem hj) ho
      unfold stored at this
      rw [if_pos hc] at this
      omega
    · exact hraw hc b hbm
  have hblk : ∀ b ∈ f.blocks, blockInit f.thr (b.encode f.thr) = some (blkOf f.thr b) ∧
      BlockOK (blkOf f.thr b) b.view := fun b hbm =>
    encode_ok' f.thr b (hL.blocks b hbm).1 hthr (hbsize b hbm) (hnr b hbm)
  refine
    { index_blk := rfl, index_ok := hidxok, index_n := ?_, offs_len := ?_, index_val := ?_,
      get_block := ?_, block_ok := ?_, nonempty := ?_, offs_inj := ?_, sep_lo := ?_, sep_hi := ?_,
      sorted := ?_ }
  · rw [tview_nb]
    show (f.indexBlock comp).view.n = _
    rw [EBlock.view_n, indexBlock_length f comp hL.seps_len]
  · rw [tview_nb]; exact offs_length f comp
  · intro j hj
    obtain ⟨b, off, hb, _, ho, _, _, eo⟩ := hget j hj
    obtain ⟨_, sep, _, hs, _⟩ := hL.chain j b hb
    have hoff : off < 2^64 := by have := hframe j b off hb ho; omega
    rw [tview_index_val f comp j sep off hs ho, eo, ← List.append_nil (venc off), vdecode64_venc hoff]
  · intro j hj
    obtain ⟨b, off, hb, hbm, ho, eb, _, eo⟩ := hget j hj
    have hst : (stored f comp b).length < 2^64 := by have := hframe j b off hb ho; omega
    rw [eo, eb, eframe_getBlock f comp (openedRd f comp decomp verify) j b off rfl rfl
      (Nat.mod_eq_of_lt hcompr) rfl hcodec hb ho hst (fun h => hv1 h b hbm)]
    exact (hblk b hbm).1
  · intro j hj
    obtain ⟨b, _, _, hbm, _, eb, ev, _⟩ := hget j hj
    rw [eb, ev]
    exact (hblk b hbm).2
  · intro j hj
    obtain ⟨b, _, _, hbm, _, _, ev, _⟩ := hget j hj
    rw [ev, EBlock.view_n]
    exact List.length_pos_iff.mpr (hL.blocks b hbm).2
  · intro i j hi hj heq
    rw [tview_nb, ← offs_length f comp] at hi hj
    have hnd : (offs f comp).Nodup := (offs_pairwise f comp).imp Nat.ne_of_lt
    refine (List.getElem_inj (h₀ := hi) (h₁ := hj) hnd).mp ?_
    rw [← BlockEnc.getD_of_lt _ _ hi, ← BlockEnc.getD_of_lt _ _ hj]
    exact heq
  · intro j hj
    obtain ⟨b, off, hb, _, ho, _, ev, _⟩ := hget j hj
    obtain ⟨last, sep, hlast, hs, hle, _⟩ := hL.chain j b hb
    rw [ev, tview_sep f comp j sep off hs ho, EBlock.view_n, EBlock.view_key, getLast?_getD _ _ _ hlast]
    exact hle
  · intro j hj
    obtain ⟨b, off, hb, _, ho, _⟩ := hget j (by omega)
    obtain ⟨nb, _, hnb', _, _, _, ev, _⟩ := hget (j + 1) hj
    obtain ⟨_, sep, _, hs, _, hnext⟩ := hL.chain j b hb
    obtain ⟨fst, hfst, hlt⟩ := hnext nb hnb'
    rw [ev, tview_sep f comp j sep off hs ho, EBlock.view_key, head?_getD _ _ _ hfst]
    exact hlt
  · rw [tview_entries]
    exact sorted_of_legal f comp hL

end FileEnc

open FileEnc in
/-- **C11 (R, first half): every well-formed file is readable.**
    For every legal choice of encoding — restart points, shared-prefix lengths, separators, block
    boundaries, leading foreign bytes, format version, compression, restart-array width — opening the
    encoded bytes succeeds, and the opened reader decodes block by block to a table whose entries are
    exactly the encoded entries.  Explicit form: the reader and the table view are named. -/
theorem EFile.open_ok_explicit (f : EFile) (comp : Bytes → Bytes) (decomp : Nat → Bytes → Option Bytes)
    (verify : Bool)
    (hl : f.legal comp = true)
    (hcodec : f.compression ≠ 0 → ∀ raw, decomp f.compression (comp raw) = some raw)
    (hthr : f.thr < 2^32)
    (hsize : (f.encode comp).length < 2^64)
    (hnr : ∀ b ∈ f.blocks, b.restarts.length < 2^32 - 1) (hnri : f.indexRestarts.length < 2^32 - 1)
    (hraw : f.compression ≠ 0 → ∀ b ∈ f.blocks, (b.encode f.thr).length < 2^64)
    (hv1 : f.version = .v1 →
      (∀ b ∈ f.blocks, (if f.compression = 0 then b.encode f.thr else comp (b.encode f.thr)).length < 2^32) ∧
      ((f.indexBlock comp).encode f.thr).length < 2^32)
    (hcompr : f.compression < 2^64) :
    readerOpen true f.thr decomp verify (f.encode comp) = .ok (openedRd f comp decomp verify) ∧
    TableOK (openedRd f comp decomp verify) (tview f comp) ∧
    (tview f comp).entries = f.entries := by
  have hL := legalP_of_legal f comp hl
  obtain ⟨hinit, _⟩ := encode_ok' f.thr (f.indexBlock comp) hL.index hthr (idxStored_lt f comp hsize) hnri
  have h8 : 8 ≤ (idxStored f comp).length := ((BlockEnc.legal_iff _).mp hL.index).encode_length_ge f.thr
  refine ⟨?_, ?_, tview_entries f comp⟩
  · exact open_index f comp decomp verify hsize h8 (fun h => (hv1 h).2) _ hinit
  · exact tableOK_encode f comp decomp verify hl hcodec hthr hsize hnr hnri hraw
      (fun h => (hv1 h).1) hcompr

/-- **C11 (R, first half)**, existential form. -/
theorem EFile.open_ok (f : EFile) (comp : Bytes → Bytes) (decomp : Nat → Bytes → Option Bytes)
    (verify : Bool)
    (hl : f.legal comp = true)
    (hcodec : f.compression ≠ 0 → ∀ raw, decomp f.compression (comp raw) = some raw)
    (hthr : f.thr < 2^32)
    (hsize : (f.encode comp).length < 2^64)
    (hnr : ∀ b ∈ f.blocks, b.restarts.length < 2^32 - 1) (hnri : f.indexRestarts.length < 2^32 - 1)
    (hraw : f.compression ≠ 0 → ∀ b ∈ f.blocks, (b.encode f.thr).length < 2^64)
    (hv1 : f.version = .v1 →
      (∀ b ∈ f.blocks, (if f.compression = 0 then b.encode f.thr else comp (b.encode f.thr)).length < 2^32) ∧
      ((f.indexBlock comp).encode f.thr).length < 2^32)
    (hcompr : f.compression < 2^64) :
    ∃ r t, readerOpen true f.thr decomp verify (f.encode comp) = .ok r ∧ TableOK r t ∧
      t.entries = f.entries :=
  ⟨_, _, EFile.open_ok_explicit f comp decomp verify hl hcodec hthr hsize hnr hnri hraw hv1 hcompr⟩


/-! ### the hypotheses are satisfiable: a two-block file, as v2 and as v1 -/

namespace FileEnc

/-- two data blocks after two foreign bytes; the third entry shares only 1 of the 3 bytes it could
    (non-maximal `shared`); block 1 has two restart points; the first separator `"ac"` lies strictly
    between `"abdf"` and `"b"` and is not a key of the table -/
def exFile (ver : FVersion) : EFile :=
  { version := ver,
    pre := [0x23, 0x21],
    blocks := [
      { items := [ { shared := 0, e := { key := [97, 98, 99], val := [1] } },
                   { shared := 2, e := { key := [97, 98, 100, 101], val := [] } },
                   { shared := 1, e := { key := [97, 98, 100, 102], val := [2, 3] } } ],
        restarts := [0] },
      { items := [ { shared := 0, e := { key := [98], val := [4] } },
                   { shared := 0, e := { key := [98, 0], val := [5] } } ],
        restarts := [0, 1] } ],
    seps := [[97, 99], [98, 0]],
    indexShared := [0, 0],
    indexRestarts := [0],
    compression := 0 }

example : (exFile .v2).legal id = true := by decide +kernel
example : (exFile .v1).legal id = true := by decide +kernel

/-- every hypothesis of `EFile.open_ok` holds for the example, in both versions, with and without
    checksum verification -/
theorem exFile_open (ver : FVersion) (verify : Bool) :
    ∃ r t, readerOpen true (exFile ver).thr (fun _ _ => none) verify ((exFile ver).encode id) = .ok r ∧
      TableOK r t ∧ t.entries = (exFile ver).entries := by
  cases ver <;>
    exact EFile.open_ok _ id _ verify (hl := by decide +kernel) (hcodec := fun h => absurd rfl h)
      (hthr := by decide +kernel) (hsize := by decide +kernel) (hnr := by decide +kernel)
      (hnri := by decide +kernel) (hraw := fun h => absurd rfl h) (hv1 := fun _ => by decide +kernel)
      (hcompr := by decide +kernel)

/-- the corner case of a table without data blocks: legal, and `EFile.open_ok` applies (`t.nb = 0`,
    index block with no entries and the single restart point 0) -/
def exEmpty (ver : FVersion) : EFile :=
  { version := ver, blocks := [], seps := [], indexShared := [] }

theorem exEmpty_open (ver : FVersion) (verify : Bool) :
    ∃ r t, readerOpen true (exEmpty ver).thr (fun _ _ => none) verify ((exEmpty ver).encode id) = .ok r ∧
      TableOK r t ∧ t.entries = [] := by
  cases ver <;>
    exact EFile.open_ok _ id _ verify (hl := by decide +kernel) (hcodec := fun h => absurd rfl h)
      (hthr := by decide +kernel) (hsize := by decide +kernel) (hnr := by decide +kernel)
      (hnri := by decide +kernel) (hraw := fun h => absurd rfl h) (hv1 := fun _ => by decide +kernel)
      (hcompr := by decide +kernel)

end FileEnc

end Mtbl
