import MtblModel.Generated.AccessSites
import MtblModel.Tp
/-
  C14, the tie between mtbl/threadpool.c and the access labels of the machine (MtblModel/Tp.lean: `accesses`).

  `Mtbl.Generated.accessSites` is regenerated from the C source on every run (translators/access_sites.py): every access
  to a field of struct thread / resultq / threadpool / result_handler, whether it writes, and the mutexes held there.
  `declared` is the hand-written table that assigns each such site to the step of the machine that performs it.
    * `sites_declared`   : every extracted site is in the table — a new access, an access that became a write, or an
                            access that moved out of (or into) a critical section makes this fail.
    * `declared_in_model`: every site assigned to a machine step is among the accesses the machine declares for that step,
                            with exactly the lock set extracted from the C code (checked on a witness state per step kind,
                            thread id 0; the machine's labels are uniform in the thread id).
  Together with `C14_norace` (no reachable state has two enabled conflicting steps with disjoint lock sets) this ties the
  race-freedom theorem to the code as written.  Sites tagged `immutable` are fields written only before the object is
  published (`max`, `thread.pool`, the result handler's fields; publication is by pthread_create / the idle list under
  the pool mutex); `setup`/`teardown` are the constructors and `resultq_destroy`, which runs in the handler thread after
  `finished && nthreads == 0 && head == NULL` was observed under the queue mutex (no other thread touches the queue
  afterwards: the caller is in pthread_join).  These three classes are argued here, not in the machine.
-/
namespace Tp.C14
open Mtbl.Generated Tp

inductive Tag
  | immutable | setup | teardown
  | workerTop | workerJob | workerSelfEnq | workerDoneOrd
  | callerNextIdle | callerNextGrow | callerAssign | callerEnqueue | callerFinish
  | callerDestroy | callerKill | callerJoinW
  | handlerDeq | handlerWaitRes | handlerGiveBack
deriving DecidableEq, Repr

def declared : List (Site × Tag) := [
  (⟨"thread_worker", "thread", "running", false, ["thr"]⟩, .workerTop),
  (⟨"thread_worker", "thread", "cb", false, []⟩, .workerJob),
  (⟨"thread_worker", "thread", "res", true, []⟩, .workerJob),
  (⟨"thread_worker", "thread", "arg", false, []⟩, .workerJob),
  (⟨"thread_worker", "thread", "cb", true, []⟩, .workerJob),
  (⟨"thread_worker", "thread", "arg", true, []⟩, .workerJob),
  (⟨"thread_worker", "thread", "rq", false, []⟩, .workerJob),
  (⟨"thread_worker", "thread", "rq", true, []⟩, .workerJob),
  (⟨"thread_worker", "thread", "running", true, []⟩, .workerJob),
  (⟨"thread_worker", "resultq", "ptail", false, ["rq"]⟩, .workerSelfEnq),
  (⟨"thread_worker", "resultq", "*ptail", true, ["rq"]⟩, .workerSelfEnq),
  (⟨"thread_worker", "resultq", "ptail", true, ["rq"]⟩, .workerSelfEnq),
  (⟨"thread_worker", "thread", "running", true, ["thr"]⟩, .workerDoneOrd),
  (⟨"threadpool_init", "threadpool", "max", true, []⟩, .immutable),
  (⟨"threadpool_next", "threadpool", "head", false, ["pool"]⟩, .callerNextIdle),
  (⟨"threadpool_next", "threadpool", "count", false, ["pool"]⟩, .callerNextGrow),
  (⟨"threadpool_next", "threadpool", "max", false, ["pool"]⟩, .immutable),
  (⟨"threadpool_next", "threadpool", "head", true, ["pool"]⟩, .callerNextIdle),
  (⟨"threadpool_next", "thread", "next", false, ["pool"]⟩, .callerNextIdle),
  (⟨"threadpool_next", "thread", "next", true, ["pool"]⟩, .callerNextIdle),
  (⟨"threadpool_next", "thread", "cb", false, ["pool"]⟩, .callerNextIdle),
  (⟨"threadpool_next", "thread", "res", false, ["pool"]⟩, .callerNextIdle),
  (⟨"threadpool_next", "thread", "running", false, ["pool"]⟩, .callerNextIdle),
  (⟨"threadpool_next", "threadpool", "count", true, ["pool"]⟩, .callerNextGrow),
  (⟨"threadpool_next", "thread", "pool", true, []⟩, .immutable),
  (⟨"threadpool_dispatch", "result_handler", "rq", false, []⟩, .immutable),
  (⟨"threadpool_dispatch", "thread", "running", false, []⟩, .callerAssign),
  (⟨"threadpool_dispatch", "thread", "next", false, []⟩, .callerAssign),
  (⟨"threadpool_dispatch", "thread", "rq", true, ["thr"]⟩, .callerAssign),
  (⟨"threadpool_dispatch", "thread", "cb", true, ["thr"]⟩, .callerAssign),
  (⟨"threadpool_dispatch", "thread", "arg", true, ["thr"]⟩, .callerAssign),
  (⟨"threadpool_dispatch", "thread", "running", true, ["thr"]⟩, .callerAssign),
  (⟨"threadpool_dispatch", "resultq", "finished", false, ["rq"]⟩, .callerEnqueue),
  (⟨"threadpool_dispatch", "resultq", "nthreads", false, ["rq"]⟩, .callerEnqueue),
  (⟨"threadpool_dispatch", "resultq", "nthreads", true, ["rq"]⟩, .callerEnqueue),
  (⟨"threadpool_dispatch", "resultq", "ptail", false, ["rq"]⟩, .callerEnqueue),
  (⟨"threadpool_dispatch", "resultq", "*ptail", true, ["rq"]⟩, .callerEnqueue),
  (⟨"threadpool_dispatch", "resultq", "ptail", true, ["rq"]⟩, .callerEnqueue),
  (⟨"threadpool_destroy", "threadpool", "count", false, ["pool"]⟩, .callerDestroy),
  (⟨"threadpool_destroy", "threadpool", "head", false, ["pool"]⟩, .callerDestroy),
  (⟨"threadpool_destroy", "threadpool", "head", true, ["pool"]⟩, .callerDestroy),
  (⟨"threadpool_destroy", "thread", "next", false, ["pool"]⟩, .callerDestroy),
  (⟨"threadpool_destroy", "thread", "cb", false, ["pool"]⟩, .callerDestroy),
  (⟨"threadpool_destroy", "thread", "running", true, ["pool", "thr"]⟩, .callerKill),
  (⟨"threadpool_destroy", "threadpool", "count", true, ["pool"]⟩, .callerJoinW),
  (⟨"resultq_init", "resultq", "ptail", true, []⟩, .setup),
  (⟨"resultq_next", "resultq", "head", false, ["rq"]⟩, .handlerDeq),
  (⟨"resultq_next", "resultq", "finished", false, ["rq"]⟩, .handlerDeq),
  (⟨"resultq_next", "resultq", "nthreads", false, ["rq"]⟩, .handlerDeq),
  (⟨"resultq_next", "resultq", "head", true, ["rq"]⟩, .handlerDeq),
  (⟨"resultq_next", "thread", "next", false, ["rq"]⟩, .handlerDeq),
  (⟨"resultq_next", "thread", "next", true, ["rq"]⟩, .handlerDeq),
  (⟨"resultq_next", "resultq", "nthreads", true, ["rq"]⟩, .handlerDeq),
  (⟨"resultq_next", "resultq", "ptail", true, ["rq"]⟩, .handlerDeq),
  (⟨"resultq_next", "thread", "running", false, ["thr"]⟩, .handlerWaitRes),
  (⟨"resultq_next", "thread", "res", false, ["thr"]⟩, .handlerWaitRes),
  (⟨"resultq_next", "thread", "res", true, ["thr"]⟩, .handlerWaitRes),
  (⟨"resultq_next", "thread", "pool", false, []⟩, .immutable),
  (⟨"resultq_next", "thread", "next", true, ["pool"]⟩, .handlerGiveBack),
  (⟨"resultq_next", "thread", "pool", false, ["pool"]⟩, .immutable),
  (⟨"resultq_next", "threadpool", "head", false, ["pool"]⟩, .handlerGiveBack),
  (⟨"resultq_next", "threadpool", "head", true, ["pool"]⟩, .handlerGiveBack),
  (⟨"resultq_finish", "resultq", "finished", true, ["rq"]⟩, .callerFinish),
  (⟨"resultq_destroy", "resultq", "head", false, []⟩, .teardown),
  (⟨"resultq_destroy", "resultq", "finished", false, []⟩, .teardown),
  (⟨"resultq_destroy", "resultq", "nthreads", false, []⟩, .teardown),
  (⟨"result_worker", "result_handler", "rq", false, []⟩, .immutable),
  (⟨"result_worker", "result_handler", "cb", false, []⟩, .immutable),
  (⟨"result_worker", "result_handler", "cbdata", false, []⟩, .immutable),
  (⟨"result_handler_init", "result_handler", "rq", true, []⟩, .immutable),
  (⟨"result_handler_init", "result_handler", "cb", true, []⟩, .immutable),
  (⟨"result_handler_init", "result_handler", "cbdata", true, []⟩, .immutable),
  (⟨"result_handler_destroy", "result_handler", "rq", false, []⟩, .immutable)
]

/-- struct field ↦ location of the machine (thread id 0); `none` = not a shared mutable location of the machine -/
def locOf (obj field : String) : Option Loc :=
  if obj == "thread" then
    if field == "running" then some (.thrRunning 0)
    else if field == "cb" || field == "arg" then some (.thrCb 0)
    else if field == "res" then some (.thrRes 0)
    else if field == "rq" then some (.thrRq 0)
    else if field == "next" then some (.thrNext 0)
    else none
  else if obj == "threadpool" then
    if field == "head" then some .poolHead else if field == "count" then some .poolCount else none
  else if obj == "resultq" then
    if field == "head" || field == "ptail" || field == "*ptail" then some .rqHead
    else if field == "nthreads" then some .rqNthreads
    else if field == "finished" then some .rqFinished
    else none
  else none

def lockOf (l : String) : Lock := if l == "pool" then .pool else if l == "rq" then .rq else .thr 0

/-- a state in which the tagged step is the next one of its thread (thread 0 where a thread is involved) -/
def witness : Tag → Option (St × Who)
  | .workerTop => some ({ max := 1, njobs := 1, ordered := true, thr := #[{ pc := .top false }] }, .worker 0)
  | .workerJob => some ({ max := 1, njobs := 1, ordered := false, thr := #[{ pc := .gotJob, cb := some 0, rq := true, running := true }] }, .worker 0)
  | .workerSelfEnq => some ({ max := 1, njobs := 1, ordered := false, thr := #[{ pc := .selfEnq }] }, .worker 0)
  | .workerDoneOrd => some ({ max := 1, njobs := 1, ordered := true, thr := #[{ pc := .doneOrd, running := true }] }, .worker 0)
  | .callerNextIdle => some ({ max := 1, njobs := 1, ordered := true, thr := #[{}], idle := [0], count := 1, cpc := .next false }, .caller)
  | .callerNextGrow => some ({ max := 1, njobs := 1, ordered := true, cpc := .next false }, .caller)
  | .callerAssign => some ({ max := 1, njobs := 1, ordered := true, thr := #[{}], count := 1, cpc := .assign 0 }, .caller)
  | .callerEnqueue => some ({ max := 1, njobs := 1, ordered := true, thr := #[{}], count := 1, cpc := .enqueue 0 }, .caller)
  | .callerFinish => some ({ max := 1, njobs := 0, ordered := true, cpc := .finish }, .caller)
  | .callerDestroy => some ({ max := 1, njobs := 0, ordered := true, thr := #[{}], idle := [0], count := 1, cpc := .destroy false, hpc := .exited }, .caller)
  | .callerKill => some ({ max := 1, njobs := 0, ordered := true, thr := #[{}], count := 1, cpc := .kill 0, hpc := .exited }, .caller)
  | .callerJoinW => some ({ max := 1, njobs := 0, ordered := true, thr := #[{ pc := .exited }], count := 1, cpc := .joinW 0, hpc := .exited }, .caller)
  | .handlerDeq => some ({ max := 1, njobs := 1, ordered := true, thr := #[{}], queue := [0], count := 1 }, .handler)
  | .handlerWaitRes => some ({ max := 1, njobs := 1, ordered := true, thr := #[{}], count := 1, hpc := .waitRes 0 false }, .handler)
  | .handlerGiveBack => some ({ max := 1, njobs := 1, ordered := true, thr := #[{}], count := 1, hpc := .giveBack 0 none }, .handler)
  | _ => none

def siteInModel (s : Site) (t : Tag) : Bool :=
  match witness t, locOf s.obj s.field with
  | some (st, w), some loc => (accesses st w).contains { loc := loc, write := s.write, locks := s.locks.map lockOf }
  | none, none => true                     -- immutable / setup / teardown sites of non-machine fields
  | none, some _ => t == .setup || t == .teardown
  | some _, none => false

/-- `sites.all fun s => l.any (·.1 == s)`, looking for each site first at its own position in `ds` -/
def coveredAt {α β} [BEq α] (l : List (α × β)) : List α → List (α × β) → Bool
  | [], _ => true
  | s :: ss, [] => l.any (fun d => d.1 == s) && coveredAt l ss []
  | s :: ss, d :: ds => (d.1 == s || l.any (fun d => d.1 == s)) && coveredAt l ss ds

theorem coveredAt_eq {α β} [BEq α] (l : List (α × β)) (ss : List α) (ds : List (α × β)) (h : ∀ d ∈ ds, d ∈ l) :
    coveredAt l ss ds = ss.all fun s => l.any fun d => d.1 == s := by
  induction ss generalizing ds with
  | nil => rfl
  | cons s ss ih =>
    cases ds with
    | nil => rw [coveredAt, ih [] h, List.all_cons]
    | cons d ds =>
      rw [coveredAt, ih ds (fun x hx => h x (List.mem_cons_of_mem _ hx)), List.all_cons]
      congr 1
      cases hd : d.1 == s
      · rfl
      · exact (List.any_eq_true.2 ⟨d, h d List.mem_cons_self, hd⟩).symm

/-- The table follows the source order, so the kernel finds each site at its own position (one comparison per site
    instead of a search); a site that has moved is still found, by the search through the whole table. -/
theorem sites_declared : accessSites.all (fun s => declared.any (fun d => d.1 == s)) = true :=
  coveredAt_eq declared accessSites declared (fun _ h => h) ▸ (by decide +kernel : coveredAt declared accessSites declared = true)

theorem declared_in_model : declared.all (fun d => siteInModel d.1 d.2) = true := by decide +kernel

theorem pool_fields_locked : declared.all (fun d =>
    !(d.1.obj == "threadpool" && (d.1.field == "head" || d.1.field == "count")) || d.1.locks.contains "pool" || d.2 == .setup) = true := by decide +kernel
theorem queue_fields_locked : declared.all (fun d =>
    !(d.1.obj == "resultq") || d.1.locks.contains "rq" || d.2 == .setup || d.2 == .teardown) = true := by decide +kernel

/-! ### the reader is immutable after open; iterators own their state (mtbl/reader.c, mtbl/block.c)

  `Mtbl.Generated.readerWrites` lists every assignment to a field of struct mtbl_reader / reader_iter / block /
  block_iter in the two files.  A field of the reader or of a decoded block (the shared index block among them) is
  assigned only by the constructors; everything an iterator operation assigns belongs to the iterator itself (a
  `reader_iter` or a `block_iter`, each owned by exactly one iterator).  So threads that work on one open reader through
  their own iterators write disjoint objects and only read the reader. -/
def readerCtors : List String := ["mtbl_reader_init_fd", "mtbl_reader_destroy", "block_init", "block_destroy"]

theorem reader_immutable : readerWrites.all (fun s =>
    s.obj == "reader_iter" || s.obj == "block_iter" || readerCtors.contains s.fn) = true := by decide +kernel

/-- non-vacuity of `reader_immutable` -/
theorem reader_sites_nontrivial :
    readerWrites.any (fun s => s.fn == "reader_iter_next" && s.obj == "reader_iter") = true ∧
    readerWrites.any (fun s => s.fn == "mtbl_reader_init_fd" && s.obj == "mtbl_reader") = true ∧
    readerWrites.any (fun s => s.fn == "parse_next_key" && s.obj == "block_iter") = true := by decide +kernel

end Tp.C14
