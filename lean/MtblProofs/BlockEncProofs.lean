import MtblModel.Format
import MtblModel.Block
import MtblProofs.BlockDefs
import MtblProofs.VarintProofs
import MtblProofs.OrderProofs
/-
  Byte-level theorems for the block layer: every legally encoded block (`EBlock.encode`) decodes,
  through the reader-side functions of MtblModel/Block.lean, to exactly its abstract content
  (`BlockOK blk b.view`), for both restart-array widths; and the writer's block builder
  (MtblModel/BlockBuilder.lean) produces one particular legal encoding (`canonBlock`).  At the end: the facts about
  `frameOffsets` (Format.lean) that the writer-side and the reader-side file proofs both use.
-/
namespace Mtbl

namespace BlockEnc

theorem lcp_le_left : ∀ (a b : Bytes), lcp a b ≤ a.length
  | [], _ => by simp [lcp]
  | _ :: _, [] => by simp [lcp]
  | x :: xs, y :: ys => by
    simp only [lcp, List.length_cons]
    split
    · have := lcp_le_left xs ys; omega
    · omega

theorem lcp_le_right : ∀ (a b : Bytes), lcp a b ≤ b.length
  | [], _ => by simp [lcp]
  | _ :: _, [] => by simp [lcp]
  | x :: xs, y :: ys => by
    simp only [lcp, List.length_cons]
    split
    · have := lcp_le_right xs ys; omega
    · omega

theorem lcp_nil_left (b : Bytes) : lcp [] b = 0 := by simp [lcp]

theorem take_eq_of_le_lcp : ∀ (a b : Bytes) (sh : Nat), sh ≤ lcp a b → a.take sh = b.take sh
  | [], b, sh => by
    intro h; rw [lcp_nil_left] at h
    have : sh = 0 := by omega
    subst this; simp
  | _ :: _, [], sh => by
    intro h; simp only [lcp] at h
    have : sh = 0 := by omega
    subst this; simp
  | x :: xs, y :: ys, sh => by
    intro h
    simp only [lcp] at h
    cases sh with
    | zero => simp
    | succ s =>
      by_cases hxy : x = y
      · rw [if_pos hxy] at h
        subst hxy
        simp only [List.take_succ_cons, List.cons.injEq, true_and]
        exact take_eq_of_le_lcp xs ys s (by omega)
      · rw [if_neg hxy] at h; omega

theorem lcp_take (a b : Bytes) : a.take (lcp a b) = b.take (lcp a b) :=
  take_eq_of_le_lcp a b _ (Nat.le_refl _)

theorem take_append_drop_of_le_lcp (prev cur : Bytes) (sh : Nat) (h : sh ≤ lcp prev cur) :
    prev.take sh ++ cur.drop sh = cur := by
  rw [take_eq_of_le_lcp prev cur sh h, List.take_append_drop]

/-! ### one entry: `decodeEntryAt` inverts `encEntry` -/

theorem venc32t_eq {v : Nat} (h : v < 2^32) : venc32t v = venc v := by
  unfold venc32t
  have p : (2:Nat)^32 = 4294967296 := by decide
  rw [Nat.mod_eq_of_lt (by omega), venc32_eq_venc h]

def _root_.Mtbl.hdrLen (sh : Nat) (e : Entry) : Nat := vlen sh + vlen (e.key.length - sh) + vlen e.val.length

theorem encEntry_eq (sh : Nat) (e : Entry) (hsh : sh ≤ e.key.length) (hk : e.key.length < 2^32)
    (hv : e.val.length < 2^32) :
    encEntry sh e = venc sh ++ (venc (e.key.length - sh) ++ (venc e.val.length ++ (e.key.drop sh ++ e.val))) := by
  unfold encEntry
  rw [venc32t_eq (show sh < 2^32 by omega), venc32t_eq (show e.key.length - sh < 2^32 by omega),
    venc32t_eq hv]
  simp only [List.append_assoc]

theorem encEntry_split (sh : Nat) (e : Entry) (hsh : sh ≤ e.key.length) (hk : e.key.length < 2^32)
    (hv : e.val.length < 2^32) :
    ∃ hdr : Bytes, encEntry sh e = hdr ++ (e.key.drop sh ++ e.val) ∧ hdr.length = hdrLen sh e :=
  ⟨venc sh ++ venc (e.key.length - sh) ++ venc e.val.length, by
    rw [encEntry_eq sh e hsh hk hv]; simp only [List.append_assoc], by
    simp only [List.length_append, venc_length, hdrLen]⟩

theorem encEntry_length (sh : Nat) (e : Entry) (hsh : sh ≤ e.key.length) (hk : e.key.length < 2^32)
    (hv : e.val.length < 2^32) :
    (encEntry sh e).length = hdrLen sh e + (e.key.length - sh) + e.val.length := by
  rw [encEntry_eq sh e hsh hk hv]
  simp only [List.length_append, venc_length, List.length_drop, hdrLen]
  omega

theorem hdrLen_ge (sh : Nat) (e : Entry) : 3 ≤ hdrLen sh e := by
  have := vlen_pos sh; have := vlen_pos (e.key.length - sh); have := vlen_pos e.val.length
  unfold hdrLen; omega

/-- `limit` = end of the entry region: the entry at `pre.length` is followed by `extra` more bytes of entries,
    a prefix of `post`, whose remainder is the restart array -/
theorem _root_.Mtbl.decodeEntryAt_enc (pre post : Bytes) (sh : Nat) (e : Entry) (extra : Nat) (data : Bytes)
    (limit : Nat) (hd : data = pre ++ encEntry sh e ++ post)
    (hsh : sh ≤ e.key.length) (hk : e.key.length < 2^32) (hv : e.val.length < 2^32)
    (hlim : limit = pre.length + (encEntry sh e).length + extra) (hle : limit ≤ data.length) :
    ∃ p, decodeEntryAt data pre.length limit = some (sh, e.key.length - sh, e.val.length, p) ∧
      p = pre.length + hdrLen sh e ∧
      (data.drop p).take (e.key.length - sh) = e.key.drop sh ∧
      (data.drop (p + (e.key.length - sh))).take e.val.length = e.val ∧
      p + (e.key.length - sh) + e.val.length = pre.length + (encEntry sh e).length := by
  have hlen := encEntry_length sh e hsh hk hv
  have h3 := hdrLen_ge sh e
  have hpost : extra ≤ post.length := by
    rw [hd] at hle; simp only [List.length_append] at hle; omega
  have p32 : (2:Nat)^32 = 4294967296 := by decide
  obtain ⟨hdr, hh, hl⟩ := encEntry_split sh e hsh hk hv
  refine ⟨pre.length + hdrLen sh e, ?_, rfl, ?_, ?_, by omega⟩
  · have hwin : (data.drop pre.length).take (limit - pre.length) =
        venc sh ++ (venc (e.key.length - sh) ++ (venc e.val.length ++
          (e.key.drop sh ++ e.val ++ post.take extra))) := by
      rw [hd, List.append_assoc, List.drop_left, hlim,
        show pre.length + (encEntry sh e).length + extra - pre.length = (encEntry sh e).length + extra by omega,
        List.take_append, List.take_of_length_le (by omega),
        show (encEntry sh e).length + extra - (encEntry sh e).length = extra by omega,
        encEntry_eq sh e hsh hk hv]
      simp only [List.append_assoc]
    unfold decodeEntryAt
    rw [if_neg (by omega)]
    simp only [hwin]
    rw [vdecR_venc _ 5 _ (vlen_le5 (by omega))]
    simp only
    rw [vdecR_venc _ 5 _ (vlen_le5 (by omega))]
    simp only
    rw [vdecR_venc _ 5 _ (vlen_le5 hv)]
    simp only
    have hl3 : (e.key.drop sh ++ e.val ++ post.take extra).length = (e.key.length - sh) + e.val.length + extra := by
      simp only [List.length_append, List.length_drop, List.length_take]; omega
    rw [hl3, if_neg (by omega)]
    simp only [U32, Option.some.injEq, Prod.mk.injEq]
    refine ⟨Nat.mod_eq_of_lt (by omega), Nat.mod_eq_of_lt (by omega), Nat.mod_eq_of_lt (by omega), by omega⟩
  · have hd' : data = (pre ++ hdr) ++ (e.key.drop sh ++ (e.val ++ post)) := by
      rw [hd, hh]; simp only [List.append_assoc]
    have hpl : pre.length + hdrLen sh e = (pre ++ hdr).length := by
      rw [List.length_append, hl]
    rw [hd', hpl, List.drop_left]
    have : e.key.length - sh = (e.key.drop sh).length := by rw [List.length_drop]
    rw [this, List.take_left]
  · have hd' : data = (pre ++ hdr ++ e.key.drop sh) ++ (e.val ++ post) := by
      rw [hd, hh]; simp only [List.append_assoc]
    have hpl : pre.length + hdrLen sh e + (e.key.length - sh) = (pre ++ hdr ++ e.key.drop sh).length := by
      simp only [List.length_append, hl, List.length_drop]
    rw [hd', hpl, List.drop_left, List.take_left]


/-! ### `EBlock.legal` as a proposition -/

/-- what `legal` demands of item `i` -/
structure ItemOK (b : EBlock) (i : Nat) (it : EEntry) : Prop where
  klen : it.e.key.length < 2^32
  vlen : it.e.val.length < 2^32
  first : i = 0 → it.shared = 0
  prev : 0 < i → ∃ pv, b.items[i - 1]? = some pv ∧ it.shared ≤ lcp pv.e.key it.e.key ∧
          bcmp pv.e.key it.e.key = .lt
  restart : i ∈ b.restarts → it.shared = 0

structure LegalP (b : EBlock) : Prop where
  head : b.restarts.head? = some 0
  mono : ∀ j (h : j + 1 < b.restarts.length), b.restarts[j] < b.restarts[j + 1]
  lt : ∀ r ∈ b.restarts, r < max b.items.length 1
  item : ∀ i it, b.items[i]? = some it → ItemOK b i it

theorem zip_tail_all (l : List Nat) :
    ((l.zip l.tail).all (fun (a, c) => decide (a < c)) = true) ↔
      ∀ j (h : j + 1 < l.length), l[j] < l[j + 1] := by
  rw [List.all_eq_true]
  constructor
  · intro h j hj
    have hz : j < (l.zip l.tail).length := by simp only [List.length_zip, List.length_tail]; omega
    have := h (l.zip l.tail)[j] (List.getElem_mem hz)
    rw [List.getElem_zip, List.getElem_tail] at this
    simpa using this
  · intro h x hx
    obtain ⟨j, hj, rfl⟩ := List.mem_iff_getElem.mp hx
    have hj' : j + 1 < l.length := by
      simp only [List.length_zip, List.length_tail] at hj; omega
    rw [List.getElem_zip, List.getElem_tail]
    simpa using h j hj'

theorem itemOK_iff (b : EBlock) (i : Nat) (it : EEntry) :
    (decide (it.e.key.length < 4294967296) && decide (it.e.val.length < 4294967296) &&
     (if i = 0 then it.shared == 0
      else match b.items[i - 1]? with
        | some prev => decide (it.shared ≤ lcp prev.e.key it.e.key) && blt prev.e.key it.e.key
        | none => false) &&
     (!b.restarts.contains i || it.shared == 0)) = true ↔ ItemOK b i it := by
  have p32 : (2:Nat)^32 = 4294967296 := by decide
  constructor
  · intro h
    simp only [Bool.and_eq_true, decide_eq_true_eq, Bool.or_eq_true, Bool.not_eq_true',
      beq_iff_eq] at h
    obtain ⟨⟨⟨hk, hv⟩, hp⟩, hr⟩ := h
    refine ⟨by omega, by omega, ?_, ?_, ?_⟩
    · intro hi; rw [if_pos hi] at hp; simpa using hp
    · intro hi
      rw [if_neg (by omega)] at hp
      cases hpv : b.items[i - 1]? with
      | none => rw [hpv] at hp; simp at hp
      | some pv =>
        rw [hpv] at hp
        simp only [Bool.and_eq_true, decide_eq_true_eq, blt, beq_iff_eq] at hp
        exact ⟨pv, rfl, hp.1, hp.2⟩
    · intro hi
      rcases hr with hr | hr
      · have := List.contains_iff_mem.mpr hi
        rw [this] at hr; cases hr
      · exact hr
  · intro h
    simp only [Bool.and_eq_true, decide_eq_true_eq, Bool.or_eq_true, Bool.not_eq_true',
      beq_iff_eq]
    refine ⟨⟨⟨by have := h.klen; omega, by have := h.vlen; omega⟩, ?_⟩, ?_⟩
    · by_cases hi : i = 0
      · rw [if_pos hi]; simpa using h.first hi
      · rw [if_neg hi]
        obtain ⟨pv, hpv, h1, h2⟩ := h.prev (by omega)
        rw [hpv]
        simp only [Bool.and_eq_true, decide_eq_true_eq, blt, beq_iff_eq]
        exact ⟨h1, h2⟩
    · by_cases hi : i ∈ b.restarts
      · right; exact h.restart hi
      · left
        cases hc : b.restarts.contains i with
        | false => rfl
        | true => exact absurd (List.contains_iff_mem.mp hc) hi

theorem legal_iff (b : EBlock) : b.legal = true ↔ LegalP b := by
  unfold EBlock.legal
  simp only [Bool.and_eq_true]
  rw [zip_tail_all, beq_iff_eq]
  constructor
  · rintro ⟨⟨⟨h1, h2⟩, h3⟩, h4⟩
    refine ⟨h1, h2, ?_, ?_⟩
    · intro r hr
      simpa using List.all_eq_true.mp h3 r hr
    · intro i it hi
      have := List.all_eq_true.mp h4 (it, i) (List.mem_zipIdx_iff_getElem?.mpr hi)
      exact (itemOK_iff b i it).mp this
  · intro h
    refine ⟨⟨⟨h.head, h.mono⟩, ?_⟩, ?_⟩
    · rw [List.all_eq_true]
      intro r hr
      simpa using h.lt r hr
    · rw [List.all_eq_true]
      rintro ⟨it, i⟩ hx
      have := h.item i it (List.mem_zipIdx_iff_getElem?.mp hx)
      exact (itemOK_iff b i it).mpr this


def encIt (it : EEntry) : Bytes := encEntry it.shared it.e

theorem region_eq (b : EBlock) : b.region = b.items.flatMap encIt := rfl

theorem offsetOf_eq (b : EBlock) (i : Nat) : b.offsetOf i = ((b.items.take i).flatMap encIt).length := rfl

theorem offsetOf_zero (b : EBlock) : b.offsetOf 0 = 0 := by
  simp [offsetOf_eq]

theorem offsetOf_of_ge (b : EBlock) (i : Nat) (h : b.items.length ≤ i) :
    b.offsetOf i = b.region.length := by
  rw [offsetOf_eq, region_eq, List.take_of_length_le h]

theorem offsetOf_succ (b : EBlock) (i : Nat) (it : EEntry) (h : b.items[i]? = some it) :
    b.offsetOf (i + 1) = b.offsetOf i + (encIt it).length := by
  rw [offsetOf_eq, offsetOf_eq, List.take_add_one, h, List.flatMap_append]
  simp

theorem region_split (b : EBlock) (i : Nat) (it : EEntry) (h : b.items[i]? = some it) :
    b.region = (b.items.take i).flatMap encIt ++ encIt it ++ (b.items.drop (i + 1)).flatMap encIt := by
  have hi : i < b.items.length := by
    rcases Nat.lt_or_ge i b.items.length with h' | h'
    · exact h'
    · rw [List.getElem?_eq_none h'] at h; cases h
  have hit : b.items[i] = it := by
    rw [List.getElem?_eq_getElem hi] at h; exact Option.some.inj h
  conv => lhs; rw [region_eq, ← List.take_append_drop i b.items, List.drop_eq_getElem_cons hi, hit]
  simp [List.flatMap_append, List.flatMap_cons]

theorem offsetOf_le (b : EBlock) (i : Nat) : b.offsetOf i ≤ b.region.length := by
  rw [offsetOf_eq]
  conv => rhs; rw [region_eq, ← List.take_append_drop i b.items, List.flatMap_append]
  simp

theorem flatMap_const_length {α : Type} (g : α → Bytes) (w : Nat) (hg : ∀ x, (g x).length = w) :
    ∀ l : List α, (l.flatMap g).length = l.length * w
  | [] => by simp
  | x :: t => by
    rw [List.flatMap_cons, List.length_append, hg, flatMap_const_length g w hg t, List.length_cons,
      Nat.add_mul]
    omega

theorem flatMap_const_drop {α : Type} (g : α → Bytes) (w : Nat) (hg : ∀ x, (g x).length = w) :
    ∀ (l : List α) (j : Nat) (x : α), l[j]? = some x →
      (l.flatMap g).drop (j * w) = g x ++ (l.drop (j + 1)).flatMap g
  | [], j, x => by simp
  | y :: t, 0, x => by
    intro h
    simp only [List.getElem?_cons_zero, Option.some.injEq] at h
    subst h; simp
  | y :: t, j + 1, x => by
    intro h
    simp only [List.getElem?_cons_succ] at h
    have e : (j + 1) * w = (g y).length + j * w := by rw [hg y, Nat.add_mul]; omega
    rw [List.flatMap_cons, e, ← List.drop_drop, List.drop_left, List.drop_succ_cons]
    exact flatMap_const_drop g w hg t j x h


/-! ### `blockInit` on an encoded block -/

theorem subU64_of_eq {a b c : Nat} (h : a = c + b) (ha : a < U64) : subU64 a b = c := by
  subst h
  unfold subU64
  rw [Nat.mod_eq_of_lt (by omega : b < U64), Nat.add_right_comm, Nat.add_sub_cancel, Nat.add_mod_right,
    Nat.mod_eq_of_lt (by omega)]

/-- `block_init` on `R` entry bytes, `n` restart slots (8 bytes wide iff `R > thr`) and the count `n`: the 32-bit
    guess for the restart offset is kept or corrected, and no check fails.  `1 + n < U32`: block_init computes
    `(1 + n) * 4` in 32 bits, hence the bound `< 2^32 - 1` on restart counts everywhere. -/
theorem blockInit_layout (thr : Nat) (data : Bytes) (n R : Nat)
    (hn : dec32 (data.drop (data.length - 4)) = n) (hpos : 0 < n) (hnr : 1 + n < U32)
    (hlen : data.length = R + n * (if R > thr then 8 else 4) + 4) (hsize : data.length < U64) :
    blockInit thr data = some { data := data, size := data.length, restartOffset := R, thr := thr } := by
  unfold blockInit
  simp only [hn]
  rw [Nat.mod_eq_of_lt hnr]
  generalize data.length = S at *
  by_cases hbig : R > thr
  · rw [if_pos hbig] at hlen
    have h8 : 8 ≤ S := by omega
    rw [subU64_of_eq (c := R + n * 4) (b := (1 + n) * 4) (by omega) hsize,
      subU64_of_eq (c := R + n * 8) (b := 4) (by omega) hsize,
      subU64_of_eq (c := R) (b := 4 + n * 8) (by omega) hsize,
      if_neg (Nat.not_lt.mpr (Nat.le_trans (by decide) h8)), if_neg (Nat.not_lt.mpr h8),
      if_pos (Nat.lt_of_lt_of_le hbig (Nat.le_add_right _ _)),
      if_neg (Nat.not_lt.mpr (Nat.le_add_right _ _)), if_neg (fun h => absurd hbig (Nat.not_lt.mpr h.2))]
  · rw [if_neg hbig] at hlen
    have h8 : 8 ≤ S := by omega
    rw [subU64_of_eq (c := R) (b := (1 + n) * 4) (by omega) hsize,
      subU64_of_eq (c := R + n * 4) (b := 4) (by omega) hsize,
      if_neg (Nat.not_lt.mpr (Nat.le_trans (by decide) h8)), if_neg (Nat.not_lt.mpr h8), if_neg hbig,
      if_neg (Nat.not_lt.mpr (Nat.le_add_right _ _)), if_neg (fun h => hbig h.1)]

def rw_ (thr : Nat) (b : EBlock) : Nat := if b.region.length > thr then 8 else 4

def rarr (thr : Nat) (b : EBlock) : Bytes :=
  b.restarts.flatMap fun i => if b.region.length > thr then fixed64 (b.offsetOf i) else fixed32 (b.offsetOf i)

theorem encode_eq (thr : Nat) (b : EBlock) :
    b.encode thr = b.region ++ rarr thr b ++ fixed32 b.restarts.length := rfl

theorem rarr_slot_length (thr : Nat) (b : EBlock) (i : Nat) :
    (if b.region.length > thr then fixed64 (b.offsetOf i) else fixed32 (b.offsetOf i)).length = rw_ thr b := by
  unfold rw_
  split <;> rfl

theorem rarr_length (thr : Nat) (b : EBlock) : (rarr thr b).length = b.restarts.length * rw_ thr b :=
  flatMap_const_length _ _ (rarr_slot_length thr b) _

theorem encode_length (thr : Nat) (b : EBlock) :
    (b.encode thr).length = b.region.length + b.restarts.length * rw_ thr b + 4 := by
  rw [encode_eq, List.length_append, List.length_append, rarr_length, fixed32_length]

theorem encode_tail (thr : Nat) (b : EBlock) (hnr : b.restarts.length < 2^32) :
    dec32 ((b.encode thr).drop ((b.encode thr).length - 4)) = b.restarts.length := by
  have : (b.encode thr).length - 4 = (b.region ++ rarr thr b).length := by
    rw [encode_length, List.length_append, rarr_length]; omega
  rw [this, encode_eq, List.drop_left, ← List.append_nil (fixed32 _), dec32_fixed32 hnr]

theorem blockInit_encode (thr : Nat) (b : EBlock) (hpos : 0 < b.restarts.length)
    (hsize : (b.encode thr).length < 2^64) (hnr : b.restarts.length < 2^32 - 1) :
    blockInit thr (b.encode thr) =
      some { data := b.encode thr, size := (b.encode thr).length, restartOffset := b.region.length, thr := thr } :=
  blockInit_layout thr _ _ _ (encode_tail thr b (by omega)) hpos (by unfold U32; omega) (encode_length thr b) hsize

end BlockEnc

/-- the abstract content of an encoder block -/
def EBlock.view (b : EBlock) : BlockView :=
  { ents := b.entries, offs := (List.range (b.items.length + 1)).map b.offsetOf, rs := b.restarts }

namespace BlockEnc

@[simp] theorem _root_.Mtbl.EBlock.view_n (b : EBlock) : b.view.n = b.items.length := by
  simp [EBlock.view, BlockView.n, EBlock.entries]

@[simp] theorem _root_.Mtbl.EBlock.view_nr (b : EBlock) : b.view.nr = b.restarts.length := rfl

@[simp] theorem _root_.Mtbl.EBlock.view_rs (b : EBlock) : b.view.rs = b.restarts := rfl

@[simp] theorem _root_.Mtbl.EBlock.view_ents (b : EBlock) : b.view.ents = b.entries := rfl

@[simp] theorem _root_.Mtbl.EBlock.view_r (b : EBlock) (j : Nat) : b.view.r j = b.restarts.getD j 0 := rfl

@[simp] theorem _root_.Mtbl.EBlock.view_off (b : EBlock) (i : Nat) (h : i ≤ b.items.length) : b.view.off i = b.offsetOf i := by
  simp only [EBlock.view, BlockView.off, List.getD_eq_getElem?_getD, List.getElem?_map]
  rw [List.getElem?_range (by omega)]
  rfl

@[simp] theorem _root_.Mtbl.EBlock.view_key (b : EBlock) (i : Nat) : b.view.key i = (b.items.getD i default).e.key := by
  simp only [EBlock.view, BlockView.key, EBlock.entries, List.getD_eq_getElem?_getD, List.getElem?_map]
  cases b.items[i]? <;> rfl

@[simp] theorem _root_.Mtbl.EBlock.view_val (b : EBlock) (i : Nat) : b.view.val i = (b.items.getD i default).e.val := by
  simp only [EBlock.view, BlockView.val, EBlock.entries, List.getD_eq_getElem?_getD, List.getElem?_map]
  cases b.items[i]? <;> rfl

theorem _root_.Mtbl.EBlock.view_key_of (b : EBlock) (i : Nat) (it : EEntry) (h : b.items[i]? = some it) :
    b.view.key i = it.e.key := by
  rw [EBlock.view_key, List.getD_eq_getElem?_getD, h]; rfl

theorem _root_.Mtbl.EBlock.view_val_of (b : EBlock) (i : Nat) (it : EEntry) (h : b.items[i]? = some it) :
    b.view.val i = it.e.val := by
  rw [EBlock.view_val, List.getD_eq_getElem?_getD, h]; rfl

theorem _root_.Mtbl.EBlock.view_offs_length (b : EBlock) : b.view.offs.length = b.view.n + 1 := by
  rw [EBlock.view_n]; simp [EBlock.view]

theorem getElem?_of_lt {α : Type} (l : List α) (i : Nat) (h : i < l.length) : ∃ x, l[i]? = some x :=
  ⟨l[i], List.getElem?_eq_getElem h⟩

theorem lt_of_getElem? {α : Type} (l : List α) (i : Nat) (x : α) (h : l[i]? = some x) : i < l.length :=
  (List.getElem?_eq_some_iff.mp h).1

theorem ItemOK.shared_le {b : EBlock} {i : Nat} {it : EEntry} (h : ItemOK b i it) :
    it.shared ≤ it.e.key.length := by
  rcases Nat.eq_zero_or_pos i with hi | hi
  · rw [h.first hi]; omega
  · obtain ⟨pv, _, h1, _⟩ := h.prev hi
    have := lcp_le_right pv.e.key it.e.key
    omega

theorem ItemOK.enc_length {b : EBlock} {i : Nat} {it : EEntry} (h : ItemOK b i it) :
    (encIt it).length = hdrLen it.shared it.e + (it.e.key.length - it.shared) + it.e.val.length :=
  encEntry_length it.shared it.e h.shared_le h.klen h.vlen

theorem entryOK_encode (thr : Nat) (b : EBlock) (hl : LegalP b) (sz : Nat) (i : Nat)
    (hi : i < b.items.length) :
    EntryOK { data := b.encode thr, size := sz, restartOffset := b.region.length, thr := thr } b.view i := by
  obtain ⟨it, hit⟩ := getElem?_of_lt b.items i hi
  have hok := hl.item i it hit
  have hsplit := region_split b i it hit
  have hdata : b.encode thr = (b.items.take i).flatMap encIt ++ encEntry it.shared it.e ++
      ((b.items.drop (i + 1)).flatMap encIt ++ rarr thr b ++ fixed32 b.restarts.length) := by
    rw [encode_eq, hsplit]; simp only [List.append_assoc, encIt]
  have hR : b.region.length = ((b.items.take i).flatMap encIt).length + (encEntry it.shared it.e).length +
      ((b.items.drop (i + 1)).flatMap encIt).length := by
    rw [hsplit]; simp only [List.length_append, encIt]
  obtain ⟨p, hdec, hp, hkey, hval, hnext⟩ := decodeEntryAt_enc _ _ it.shared it.e _ (b.encode thr)
    b.region.length hdata hok.shared_le hok.klen hok.vlen hR (by rw [encode_length]; omega)
  have hoff : b.view.off i = ((b.items.take i).flatMap encIt).length := by
    rw [EBlock.view_off b i (by omega)]; rfl
  refine ⟨it.shared, it.e.key.length - it.shared, it.e.val.length, p, ?_, hok.first, ?_, ?_, ?_, ?_, hok.restart⟩
  · rw [hoff]; exact hdec
  · rcases Nat.eq_zero_or_pos i with h0 | h0
    · rw [hok.first h0]; omega
    · obtain ⟨pv, hpv, h1, _⟩ := hok.prev h0
      rw [EBlock.view_key_of b (i - 1) pv hpv]
      have := lcp_le_left pv.e.key it.e.key
      omega
  · show b.view.key i = _ ++ List.take _ (List.drop p (b.encode thr))
    rw [EBlock.view_key_of b i it hit, hkey]
    rcases Nat.eq_zero_or_pos i with h0 | h0
    · rw [hok.first h0]; simp
    · obtain ⟨pv, hpv, h1, _⟩ := hok.prev h0
      rw [EBlock.view_key_of b (i - 1) pv hpv, take_append_drop_of_le_lcp _ _ _ h1]
  · show b.view.val i = List.take _ (List.drop _ (b.encode thr))
    rw [EBlock.view_val_of b i it hit, hval]
  · rw [EBlock.view_off b (i + 1) (by omega), hnext, offsetOf_succ b i it hit]
    rfl

theorem off_mono_encode (b : EBlock) (hl : LegalP b) (i : Nat) (hi : i < b.items.length) :
    b.offsetOf i < b.offsetOf (i + 1) := by
  obtain ⟨it, hit⟩ := getElem?_of_lt b.items i hi
  have hok := hl.item i it hit
  rw [offsetOf_succ b i it hit, hok.enc_length]
  have := hdrLen_ge it.shared it.e
  omega

theorem LegalP.restarts_pos {b : EBlock} (hl : LegalP b) : 0 < b.restarts.length := by
  have := hl.head
  cases h : b.restarts with
  | nil => rw [h] at this; cases this
  | cons _ _ => simp

theorem LegalP.r_zero {b : EBlock} (hl : LegalP b) : b.restarts.getD 0 0 = 0 := by
  have := hl.head
  rw [List.head?_eq_getElem?] at this
  rw [List.getD_eq_getElem?_getD, this]; rfl

theorem getD_of_lt (l : List Nat) (j : Nat) (h : j < l.length) : l.getD j 0 = l[j] := by
  rw [List.getD_eq_getElem?_getD, List.getElem?_eq_getElem h]; rfl

theorem LegalP.r_lt {b : EBlock} (hl : LegalP b) (j : Nat) (hj : j < b.restarts.length) :
    b.restarts.getD j 0 < max b.items.length 1 := by
  rw [getD_of_lt _ _ hj]
  exact hl.lt _ (List.getElem_mem hj)

theorem sorted_encode (b : EBlock) (hl : LegalP b) : StrictSorted b.entries := by
  unfold StrictSorted
  refine pairwise_of_adjacent (fun a b : Entry => bcmp a.key b.key = .lt) (fun _ _ _ => bcmp_lt_trans) _ ?_
  intro i hi
  simp only [EBlock.entries, List.length_map] at hi
  obtain ⟨it, hit⟩ := getElem?_of_lt b.items (i + 1) hi
  obtain ⟨pv, hpv, _, hlt⟩ := (hl.item (i + 1) it hit).prev (by omega)
  simp only [Nat.add_sub_cancel] at hpv
  simp only [EBlock.entries, List.getElem_map]
  rw [List.getElem?_eq_getElem (by omega)] at hpv hit
  rw [Option.some.inj hpv, Option.some.inj hit]
  exact hlt

theorem restart_pt_encode (thr : Nat) (b : EBlock) (hl : LegalP b) (hthr : thr < 2^32)
    (hsize : (b.encode thr).length < 2^64) (sz : Nat) (bi : BI) (j : Nat)
    (hblk : bi.blk = { data := b.encode thr, size := sz, restartOffset := b.region.length, thr := thr })
    (hres : bi.restarts = b.region.length) (hj : j < b.restarts.length) :
    getRestartPoint bi j = b.view.off (b.view.r j) := by
  have hrj := hl.r_lt j hj
  rw [EBlock.view_r, EBlock.view_off b _ (by omega), getD_of_lt _ _ hj]
  have hget : b.restarts[j]? = some b.restarts[j] := List.getElem?_eq_getElem hj
  have hdrop := flatMap_const_drop _ _ (rarr_slot_length thr b) b.restarts j _ hget
  have hle := offsetOf_le b b.restarts[j]
  have hlen := encode_length thr b
  have hdata : (b.encode thr).drop (b.region.length + j * rw_ thr b) =
      (if b.region.length > thr then fixed64 (b.offsetOf b.restarts[j]) else fixed32 (b.offsetOf b.restarts[j])) ++
      ((b.restarts.drop (j + 1)).flatMap (fun i => if b.region.length > thr then fixed64 (b.offsetOf i)
          else fixed32 (b.offsetOf i)) ++ fixed32 b.restarts.length) := by
    rw [encode_eq, List.append_assoc, ← List.drop_drop, List.drop_left,
      List.drop_append_of_le_length (by
        rw [rarr_length]; exact Nat.mul_le_mul_right _ (by omega))]
    unfold rarr
    rw [hdrop, List.append_assoc]
  unfold getRestartPoint
  rw [hblk, hres]
  simp only
  unfold rw_ at hdata hlen
  by_cases hbig : b.region.length > thr
  · rw [if_pos hbig] at hdata hlen ⊢
    rw [hdata, if_pos hbig, dec64_fixed64 (by omega)]
  · rw [if_neg hbig] at hdata ⊢
    rw [hdata, if_neg hbig, dec32_fixed32 (by omega)]

/-- one restart slot and the count: a legal encoding has at least 8 bytes -/
theorem LegalP.encode_length_ge {b : EBlock} (hl : LegalP b) (thr : Nat) : 8 ≤ (b.encode thr).length := by
  have hw : 4 ≤ rw_ thr b := by unfold rw_; split <;> omega
  have := Nat.le_trans hw (Nat.le_mul_of_pos_left _ hl.restarts_pos)
  rw [encode_length]
  omega

theorem blockOK_encode (thr : Nat) (b : EBlock) (hl : LegalP b) (hthr : thr < 2^32)
    (hsize : (b.encode thr).length < 2^64) (hnr : b.restarts.length < 2^32) :
    BlockOK { data := b.encode thr, size := (b.encode thr).length, restartOffset := b.region.length, thr := thr }
      b.view where
  size_ok := hl.encode_length_ge thr
  nr_ok := encode_tail thr b hnr
  nr_pos := hl.restarts_pos
  offs_len := EBlock.view_offs_length b
  off_zero := by rw [EBlock.view_off b 0 (by omega), offsetOf_zero]
  off_last := by rw [EBlock.view_n, EBlock.view_off b _ (Nat.le_refl _), offsetOf_of_ge b _ (Nat.le_refl _)]
  off_mono := by
    intro i hi
    rw [EBlock.view_n] at hi
    rw [EBlock.view_off b i (by omega), EBlock.view_off b (i + 1) (by omega)]
    exact off_mono_encode b hl i hi
  entry := by
    intro i hi
    rw [EBlock.view_n] at hi
    exact entryOK_encode thr b hl _ i hi
  r_zero := hl.r_zero
  r_mono := by
    intro j hj
    rw [EBlock.view_nr] at hj
    rw [EBlock.view_r, EBlock.view_r, getD_of_lt _ _ (by omega), getD_of_lt _ _ hj]
    exact hl.mono j hj
  r_lt := by
    intro j hj
    rw [EBlock.view_nr] at hj
    rw [EBlock.view_r, EBlock.view_n]
    exact hl.r_lt j hj
  restart_pt := fun bi j hblk hres hj => restart_pt_encode thr b hl hthr hsize _ bi j hblk hres hj
  sorted := sorted_encode b hl

end BlockEnc

open BlockEnc in
/-- Every legally encoded block is accepted by `block_init` and decodes, entry by entry and restart
    point by restart point, to its abstract content; both restart-array widths. -/
theorem EBlock.encode_ok (thr : Nat) (b : EBlock) (hl : b.legal = true) (hthr : thr < 2^32)
    (hsize : (b.encode thr).length < 2^64) (hnr : b.restarts.length < 2^32 - 1) :
    ∃ blk, blockInit thr (b.encode thr) = some blk ∧ blk.data = b.encode thr ∧ blk.thr = thr ∧
      blk.restartOffset = b.region.length ∧ BlockOK blk b.view :=
  have hl := (legal_iff b).mp hl
  ⟨_, blockInit_encode thr b hl.restarts_pos hsize hnr, rfl, rfl, rfl, blockOK_encode thr b hl hthr hsize (by omega)⟩


/-! ### the block builder makes one particular legal choice -/

/-- the choices block_builder.c makes: a restart every `interval` entries, maximal sharing in between.
    `counter` = entries since the last restart, `prev` = the previous key. -/
def canonItems (interval : Nat) : (counter : Nat) → (prev : Bytes) → List Entry → List EEntry
  | _, _, [] => []
  | c, prev, e :: es =>
    if c < interval then ⟨lcp prev e.key, e⟩ :: canonItems interval (c + 1) e.key es
    else ⟨0, e⟩ :: canonItems interval 1 e.key es

/-- indices (relative to the next entry to be added) at which the builder starts a new restart run
    while adding `n` more entries, when `counter` entries have been added since the last restart -/
def canonRestartsFrom (interval : Nat) : (counter : Nat) → (n : Nat) → List Nat
  | _, 0 => []
  | c, n + 1 =>
    if c < interval then (canonRestartsFrom interval (c + 1) n).map (· + 1)
    else 0 :: (canonRestartsFrom interval 1 n).map (· + 1)

/-- restart entry indices of a block of `n` entries: `0, interval, 2*interval, …` below `max n 1`
    (see `mem_canonRestarts`) -/
def canonRestarts (interval n : Nat) : List Nat := 0 :: canonRestartsFrom interval 0 n

def canonBlock (interval : Nat) (es : List Entry) : EBlock :=
  { items := canonItems interval 0 [] es, restarts := canonRestarts interval es.length }

namespace BlockEnc

theorem canonItems_nil (I c : Nat) (prev : Bytes) : canonItems I c prev [] = [] := by
  simp [canonItems]

theorem canonItems_cons (I c : Nat) (prev : Bytes) (e : Entry) (es : List Entry) :
    canonItems I c prev (e :: es) =
      ⟨if c < I then lcp prev e.key else 0, e⟩ :: canonItems I (if c < I then c + 1 else 1) e.key es := by
  rw [canonItems]
  split <;> rfl

theorem crf_zero (I c : Nat) : canonRestartsFrom I c 0 = [] := by
  simp [canonRestartsFrom]

theorem crf_succ_lt (I c n : Nat) (h : c < I) :
    canonRestartsFrom I c (n + 1) = (canonRestartsFrom I (c + 1) n).map (· + 1) := by
  simp [canonRestartsFrom, h]

theorem crf_succ_ge (I c n : Nat) (h : ¬ c < I) :
    canonRestartsFrom I c (n + 1) = 0 :: (canonRestartsFrom I 1 n).map (· + 1) := by
  simp [canonRestartsFrom, h]

theorem addAll_nil (b : BB) : b.addAll [] = b := rfl
theorem addAll_cons (b : BB) (e : Entry) (es : List Entry) : b.addAll (e :: es) = (b.add e).addAll es := rfl

theorem add_lt (b : BB) (e : Entry) (h : b.counter < b.interval) :
    b.add e = { b with buf := b.buf ++ encEntry (lcp b.lastKey e.key) e, lastKey := e.key,
                       counter := b.counter + 1 } := by
  unfold BB.add; rw [if_pos h]

theorem add_ge (b : BB) (e : Entry) (h : ¬ b.counter < b.interval) :
    b.add e = { b with restarts := b.restarts ++ [b.buf.length], buf := b.buf ++ encEntry 0 e,
                       lastKey := e.key, counter := 1 } := by
  unfold BB.add; rw [if_neg h]

theorem addAll_state (es : List Entry) : ∀ (b : BB),
    (b.addAll es).interval = b.interval ∧ (b.addAll es).thr = b.thr ∧
    (b.addAll es).buf = b.buf ++ (canonItems b.interval b.counter b.lastKey es).flatMap encIt ∧
    (b.addAll es).restarts = b.restarts ++
      (canonRestartsFrom b.interval b.counter es.length).map fun i =>
        b.buf.length + (((canonItems b.interval b.counter b.lastKey es).take i).flatMap encIt).length := by
  induction es with
  | nil => intro b; simp [addAll_nil, canonItems_nil, crf_zero]
  | cons e es ih =>
    intro b
    obtain ⟨h1, h2, h3, h4⟩ := ih (b.add e)
    rw [addAll_cons, h1, h2, h3, h4, canonItems_cons, List.length_cons]
    have hoff : ∀ (sh : Nat) (its : List EEntry) (i : Nat),
        b.buf.length + (((⟨sh, e⟩ :: its).take (i + 1)).flatMap encIt).length =
          (b.buf ++ encEntry sh e).length + ((its.take i).flatMap encIt).length := by
      intro sh its i
      simp only [List.take_succ_cons, List.flatMap_cons, List.length_append, encIt]
      omega
    by_cases h : b.counter < b.interval
    · rw [add_lt b e h, if_pos h, if_pos h, crf_succ_lt _ _ _ h]
      simp only [List.flatMap_cons, encIt, List.append_assoc, List.map_map, Function.comp_def, hoff, true_and]
    · rw [add_ge b e h, if_neg h, if_neg h, crf_succ_ge _ _ _ h]
      simp only [List.flatMap_cons, encIt, List.append_assoc, List.map_cons, List.map_map, Function.comp_def, hoff,
        List.take_zero, List.flatMap_nil, List.length_nil, Nat.add_zero, List.singleton_append, true_and]

theorem addAll_fresh (I T : Nat) (es : List Entry) :
    (BB.addAll { interval := I, thr := T } es).interval = I ∧
    (BB.addAll { interval := I, thr := T } es).thr = T ∧
    (BB.addAll { interval := I, thr := T } es).buf = (canonBlock I es).region ∧
    (BB.addAll { interval := I, thr := T } es).restarts =
      (canonBlock I es).restarts.map (canonBlock I es).offsetOf := by
  obtain ⟨h1, h2, h3, h4⟩ := addAll_state es { interval := I, thr := T }
  refine ⟨h1, h2, by rw [h3]; rfl, ?_⟩
  rw [h4]
  show _ = List.map _ (0 :: canonRestartsFrom I 0 es.length)
  rw [List.map_cons, offsetOf_zero]
  simp only [List.length_nil, Nat.zero_add]
  rfl

end BlockEnc

open BlockEnc in
/-- `block_builder_finish` after adding `es` writes exactly the canonical encoder block -/
theorem BB_finish_eq (interval thr : Nat) (es : List Entry) :
    (BB.addAll { interval := interval, thr := thr } es).finish = (canonBlock interval es).encode thr := by
  obtain ⟨_, h2, h3, h4⟩ := addAll_fresh interval thr es
  unfold BB.finish EBlock.encode
  simp only [h2, h3, h4, List.length_map, List.flatMap_map]


namespace BlockEnc

theorem crf_eq_filter (I : Nat) : ∀ (n c : Nat), 1 ≤ c → c ≤ I →
    canonRestartsFrom I c n = (List.range n).filter fun i => (i + c) % I = 0 := by
  intro n
  induction n with
  | zero => intro c _ _; rw [crf_zero]; rfl
  | succ n ih =>
    intro c h1 hI
    rw [List.range_succ_eq_map, List.filter_cons, List.filter_map, Nat.zero_add]
    by_cases h : c < I
    · rw [crf_succ_lt _ _ _ h, ih (c + 1) (by omega) h, if_neg (by rw [Nat.mod_eq_of_lt h]; simp; omega)]
      congr 2
      funext i
      rw [Function.comp, Nat.succ_add_eq_add_succ]
    · have hc : c = I := by omega
      subst hc
      rw [crf_succ_ge _ _ _ h, ih 1 (Nat.le_refl _) h1, if_pos (by simp)]
      congr 3
      funext i
      rw [Function.comp, Nat.add_mod_right]

theorem canonRestarts_eq_filter (I n : Nat) (hi : 1 ≤ I) :
    canonRestarts I n = (List.range (max n 1)).filter fun i => i % I = 0 := by
  unfold canonRestarts
  cases n with
  | zero => rw [crf_zero]; simp
  | succ n =>
    rw [crf_succ_lt _ _ _ (show 0 < I by omega), crf_eq_filter I n 1 (Nat.le_refl _) hi,
      show max (n + 1) 1 = n + 1 by omega, List.range_succ_eq_map, List.filter_cons, List.filter_map,
      if_pos (by simp)]
    rfl

theorem canonRestarts_pairwise (I n : Nat) (hi : 1 ≤ I) : (canonRestarts I n).Pairwise (· < ·) := by
  rw [canonRestarts_eq_filter I n hi]
  exact List.pairwise_lt_range.filter _

end BlockEnc

open BlockEnc in
theorem mem_canonRestarts (interval n i : Nat) (hi : 1 ≤ interval) :
    i ∈ canonRestarts interval n ↔ i < max n 1 ∧ i % interval = 0 := by
  rw [canonRestarts_eq_filter interval n hi, List.mem_filter, List.mem_range, decide_eq_true_eq]

namespace BlockEnc

theorem canonItems_map_e (I : Nat) (es : List Entry) : ∀ (c : Nat) (prev : Bytes),
    (canonItems I c prev es).map (·.e) = es := by
  induction es with
  | nil => intro c prev; rw [canonItems_nil]; rfl
  | cons e es ih => intro c prev; rw [canonItems_cons, List.map_cons, ih]

theorem canonItems_length (I c : Nat) (prev : Bytes) (es : List Entry) :
    (canonItems I c prev es).length = es.length := by
  have := congrArg List.length (canonItems_map_e I es c prev)
  simpa using this

theorem canonItems_getElem?_e (I c : Nat) (prev : Bytes) (es : List Entry) (i : Nat) (it : EEntry)
    (h : (canonItems I c prev es)[i]? = some it) : es[i]? = some it.e := by
  have := congrArg (fun l => l[i]?) (canonItems_map_e I es c prev)
  simp only [List.getElem?_map, h, Option.map_some] at this
  exact this.symm

/-- exact sharing: nothing at a restart point, the longest common prefix with the previous key elsewhere -/
theorem canonItems_shared_exact (I : Nat) (es : List Entry) : ∀ (c : Nat) (prev : Bytes) (i : Nat) (it : EEntry),
    (canonItems I c prev es)[i]? = some it →
    it.shared = if i ∈ canonRestartsFrom I c es.length then 0
                else lcp (if i = 0 then prev else ((es[i - 1]?).map (·.key)).getD []) it.e.key := by
  induction es with
  | nil => intro c prev i it h; rw [canonItems_nil] at h; simp at h
  | cons e es ih =>
    intro c prev i it h
    rw [canonItems_cons] at h
    rw [List.length_cons]
    cases i with
    | zero =>
      simp only [List.getElem?_cons_zero, Option.some.injEq] at h
      subst h
      by_cases hc : c < I
      · rw [crf_succ_lt _ _ _ hc]; simp [hc]
      · rw [crf_succ_ge _ _ _ hc]; simp [hc]
    | succ i =>
      simp only [List.getElem?_cons_succ] at h
      rw [ih _ _ i it h]
      -- index `i + 1` is a restart of the longer list iff `i` is one of the tail
      have hm : i + 1 ∈ canonRestartsFrom I c (es.length + 1) ↔
          i ∈ canonRestartsFrom I (if c < I then c + 1 else 1) es.length := by
        by_cases hc : c < I
        · rw [crf_succ_lt _ _ _ hc]; simp [hc]
        · rw [crf_succ_ge _ _ _ hc]; simp [hc]
      simp only [hm, Nat.add_sub_cancel, Nat.succ_ne_zero, if_false]
      cases i <;> simp

theorem canonBlock_legalP (interval : Nat) (es : List Entry) (hi : 1 ≤ interval) (hs : StrictSorted es)
    (hlen : ∀ e ∈ es, e.key.length < 2^32 ∧ e.val.length < 2^32) : LegalP (canonBlock interval es) := by
  have hitems : (canonBlock interval es).items = canonItems interval 0 [] es := rfl
  have hrs : (canonBlock interval es).restarts = canonRestarts interval es.length := rfl
  refine ⟨rfl, ?_, ?_, ?_⟩
  · intro j hj
    have hj' : j + 1 < (canonRestarts interval es.length).length := hj
    exact List.pairwise_iff_getElem.mp (canonRestarts_pairwise interval es.length hi) j (j + 1)
      (by omega) hj' (by omega)
  · intro r hr
    rw [hitems, canonItems_length]
    exact ((mem_canonRestarts interval es.length r hi).mp hr).1
  · intro i it hit
    rw [hitems] at hit
    have he := canonItems_getElem?_e _ _ _ _ _ _ hit
    have hmem : it.e ∈ es := List.mem_of_getElem? he
    have hsh := canonItems_shared_exact interval es 0 [] i it hit
    refine ⟨(hlen _ hmem).1, (hlen _ hmem).2, ?_, ?_, ?_⟩
    · intro h0
      rw [hsh]
      split
      · rfl
      · exact lcp_nil_left _
    · intro h0
      have h2 := lt_of_getElem? _ _ _ he
      have h1 : i - 1 < es.length := by omega
      obtain ⟨pit, hpit⟩ := getElem?_of_lt (canonItems interval 0 [] es) (i - 1) (by rw [canonItems_length]; exact h1)
      have hpe := canonItems_getElem?_e _ _ _ _ _ _ hpit
      refine ⟨pit, by rw [hitems]; exact hpit, ?_, ?_⟩
      · rw [hsh]
        split
        · exact Nat.zero_le _
        · rw [if_neg (by omega), hpe]; exact Nat.le_refl _
      · have := List.pairwise_iff_getElem.mp hs (i - 1) i h1 h2 (by omega)
        rw [List.getElem?_eq_getElem h1] at hpe
        rw [List.getElem?_eq_getElem h2] at he
        rw [Option.some.inj hpe, Option.some.inj he] at this
        exact this
    · intro hm
      rw [hsh]
      rw [hrs, canonRestarts, List.mem_cons] at hm
      rcases hm with rfl | hm
      · split
        · rfl
        · rw [if_pos rfl, lcp_nil_left]
      · rw [if_pos hm]

end BlockEnc

open BlockEnc in
theorem canonBlock_legal (interval : Nat) (es : List Entry) (hi : 1 ≤ interval) (hs : StrictSorted es)
    (hlen : ∀ e ∈ es, e.key.length < 2^32 ∧ e.val.length < 2^32) :
    (canonBlock interval es).legal = true :=
  (legal_iff _).mpr (canonBlock_legalP interval es hi hs hlen)

open BlockEnc in
theorem canonBlock_entries (interval : Nat) (es : List Entry) : (canonBlock interval es).entries = es :=
  canonItems_map_e interval es 0 []

open BlockEnc in
/-- What the block builder writes is accepted by `block_init` and decodes to exactly the entries added. -/
theorem BB_block_ok (interval thr : Nat) (es : List Entry) (hi : 1 ≤ interval) (hs : StrictSorted es)
    (hlen : ∀ e ∈ es, e.key.length < 2^32 ∧ e.val.length < 2^32) (hthr : thr < 2^32)
    (hsize : ((BB.addAll { interval := interval, thr := thr } es).finish).length < 2^64)
    (hnr : (canonRestarts interval es.length).length < 2^32 - 1) :
    ∃ blk, blockInit thr (BB.addAll { interval := interval, thr := thr } es).finish = some blk ∧
      blk.data = (BB.addAll { interval := interval, thr := thr } es).finish ∧ blk.thr = thr ∧
      blk.restartOffset = (canonBlock interval es).region.length ∧
      BlockOK blk (canonBlock interval es).view ∧ (canonBlock interval es).view.ents = es := by
  rw [BB_finish_eq interval thr es] at hsize ⊢
  obtain ⟨blk, h1, h2, h3, h4, h5⟩ :=
    EBlock.encode_ok thr (canonBlock interval es) (canonBlock_legal interval es hi hs hlen) hthr hsize hnr
  exact ⟨blk, h1, h2, h3, h4, h5, canonBlock_entries interval es⟩


/-! ### `frameOffsets`: where each frame of a file starts -/

theorem frameOffsets_length : ∀ (frs : List Bytes) (start : Nat), (frameOffsets start frs).length = frs.length
  | [], _ => rfl
  | _ :: rest, start => by simp only [frameOffsets, List.length_cons, frameOffsets_length rest]

theorem frameOffsets_getElem? (frs : List Bytes) : ∀ (s j : Nat), j < frs.length →
    (frameOffsets s frs)[j]? = some (s + ((frs.take j).flatMap id).length) := by
  induction frs with
  | nil => intro s j hj; cases hj
  | cons fr frs ih =>
    intro s j hj
    cases j with
    | zero => simp [frameOffsets]
    | succ j =>
      simp only [frameOffsets, List.getElem?_cons_succ, List.take_succ_cons, List.flatMap_cons,
        List.length_append, id]
      rw [ih (s + fr.length) j (by simpa using hj)]
      simp only [Nat.add_assoc]

theorem frameOffsets_ge (frs : List Bytes) : ∀ s, ∀ o ∈ frameOffsets s frs, s ≤ o := by
  induction frs with
  | nil => intro s o ho; simp [frameOffsets] at ho
  | cons fr frs ih =>
    intro s o ho
    simp only [frameOffsets, List.mem_cons] at ho
    rcases ho with rfl | ho
    · exact Nat.le_refl _
    · have := ih _ o ho; omega

theorem frameOffsets_pairwise (frs : List Bytes) (hne : ∀ fr ∈ frs, 0 < fr.length) :
    ∀ s, (frameOffsets s frs).Pairwise (· < ·) := by
  induction frs with
  | nil => intro s; exact List.Pairwise.nil
  | cons fr frs ih =>
    intro s
    simp only [frameOffsets, List.pairwise_cons]
    refine ⟨?_, ih (fun x hx => hne x (List.mem_cons_of_mem _ hx)) _⟩
    intro o ho
    have := frameOffsets_ge frs _ o ho
    have := hne fr (List.mem_cons_self ..)
    omega

theorem frameOffsets_le : ∀ (frs : List Bytes) (start : Nat), ∀ off ∈ frameOffsets start frs,
    off ≤ start + frs.flatten.length
  | [], _, off, h => by cases h
  | fr :: rest, start, off, h => by
    simp only [frameOffsets, List.mem_cons] at h
    rcases h with rfl | h
    · omega
    · have := frameOffsets_le rest _ off h
      simp only [List.flatten_cons, List.length_append]; omega

theorem frameOffsets_set (frames : List Bytes) : ∀ (j : Nat) (fr fr' : Bytes) (s : Nat),
    frames[j]? = some fr → fr'.length = fr.length →
    frameOffsets s (frames.set j fr') = frameOffsets s frames := by
  induction frames with
  | nil => intro j fr fr' s h; simp at h
  | cons a rest ih =>
    intro j fr fr' s h hl
    cases j with
    | zero =>
      simp only [List.getElem?_cons_zero, Option.some.injEq] at h
      subst h
      simp only [List.set_cons_zero, frameOffsets, hl]
    | succ j =>
      simp only [List.getElem?_cons_succ] at h
      simp only [List.set_cons_succ, frameOffsets, ih j fr fr' _ h hl]

/-- the empty block: `00 00 00 00  01 00 00 00` -/
theorem canonBlock_nil_encode (interval thr : Nat) :
    (canonBlock interval []).encode thr = [0, 0, 0, 0, 1, 0, 0, 0] := by
  simp [canonBlock, canonItems, canonRestarts, canonRestartsFrom, EBlock.encode, EBlock.region,
    EBlock.offsetOf, fixed32]


end Mtbl
