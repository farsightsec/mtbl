import MtblProofs.TpProofs
/-
  Liveness of the pool machine (C13 "close/destroy calls return instead of hanging").

  A potential function `Phi : St → Nat` such that, in every reachable state,
    * every real step of any thread (caller, handler, worker) strictly decreases `Phi`;
    * a spurious wake-up increases it by at most one.
  Hence along EVERY schedule the number of real steps taken is at most `Phi (init …) + #spurious wake-ups`: no schedule,
  fair or not, can keep the pool busy for ever unless the OS delivers infinitely many spurious wake-ups; together with
  deadlock freedom (some real step is enabled in every non-final reachable state) every maximal execution ends in the
  final state, i.e. `threadpool_destroy` has returned.

  `Phi = 8 * progress + awake`, where `progress` counts the work that is still owed (per job not yet dispatched: 16 units,
  moved to the worker (3, or 7 when it will queue itself) at `assign` and to the result queue (4) when the thread is
  queued; per live thread 5 units of tear-down) and `awake` counts the threads standing at a loop head that may still go to
  sleep (going to sleep is a real step that makes no other progress; a signal wakes at most two sleepers).
-/
namespace Tp

/-- work a worker still owes before it is back at its loop head with nothing to do (or has exited) -/
def wP (th : Thr) : Nat := match th.pc with
  | .top _ => if th.running then (if th.cb.isSome then 3 + (if th.rq then 4 else 0) else 2) else 0
  | .gotJob => if th.cb.isSome then 2 + (if th.rq then 4 else 0) else 1
  | .selfEnq => 5
  | .doneOrd => 1
  | .exited => 0
/- Naming: `w`/`c`/`h` = worker/caller/handler; `P` = progress still owed, `W` = 1 when awake at a loop head (may still
   go to sleep); `…f` = as a function of the pc. -/
def wW (th : Thr) : Nat := if th.pc = .top false then 1 else 0
def wPot (th : Thr) : Nat := 8 * wP th + wW th
def sumThr (a : Array Thr) : Nat := (a.toList.map wPot).sum

def cPf (cpc : CPc) (njobs nextJob max count : Nat) : Nat := match cpc with
  | .next _ => 16 * (njobs - nextJob) + (5 * max + 4)
  | .create => 16 * (njobs - nextJob) - 1 + (5 * max + 4)
  | .assign _ => 16 * (njobs - nextJob) - 2 + (5 * max + 4)
  | .enqueue _ => 16 * (njobs - nextJob) - 10 + (5 * max + 4)
  | .finish => 5 * max + 3
  | .joinH => 5 * max + 2
  | .destroy _ => 5 * count + 1
  | .kill _ => 5 * count
  | .joinW _ => 5 * count - 3
  | .done => 0
def cWf (cpc : CPc) : Nat := match cpc with | .next false | .destroy false => 1 | _ => 0
def hPf (hpc : HPc) (qlen : Nat) : Nat := match hpc with
  | .deq _ => 4 * qlen + 1
  | .waitRes _ _ => 4 * qlen + 4
  | .giveBack _ _ => 4 * qlen + 3
  | .callback _ => 4 * qlen + 2
  | .exited => 0
def hWf (hpc : HPc) : Nat := match hpc with | .deq false | .waitRes _ false => 1 | _ => 0

/-- factor 8: going to sleep lowers only the `W` part, and one step (a signal) may raise `W` parts by at most two
    while lowering progress by one -/
def Phi (s : St) : Nat :=
  8 * (cPf s.cpc s.njobs s.nextJob s.max s.count + hPf s.hpc s.queue.length) + cWf s.cpc + hWf s.hpc + sumThr s.thr

theorem sumThr_push (a : Array Thr) (x : Thr) : sumThr (a.push x) = sumThr a + wPot x := by
  simp [sumThr]

theorem sum_set (l : List Thr) (t : Nat) (x : Thr) (hl : t < l.length) :
    ((l.set t x).map wPot).sum + wPot l[t] = (l.map wPot).sum + wPot x := by
  induction l generalizing t with
  | nil => simp at hl
  | cons y ys ih =>
    cases t with
    | zero => simp; omega
    | succ t =>
      simp only [List.set_cons_succ, List.map_cons, List.sum_cons, List.getElem_cons_succ]
      have := ih t (by simpa using hl)
      omega

theorem sumThr_modify (a : Array Thr) (t : Nat) (f : Thr → Thr) (h : t < a.size) :
    sumThr (a.modify t f) + wPot a[t]! = sumThr a + wPot (f a[t]!) := by
  have h1 := modify_eq_set a t f h
  have h2 : a[t]! = a[t] := getElem!_pos a t h
  rw [h1, h2]
  unfold sumThr
  rw [Array.toList_set]
  have hl : t < a.toList.length := by simpa using h
  have := sum_set a.toList t (f a[t]) hl
  simpa using this

theorem sumThr_modify_oob (a : Array Thr) (t : Nat) (f : Thr → Thr) (h : ¬ t < a.size) :
    sumThr (a.modify t f) = sumThr a := by
  rw [modify_oob a t f h]

theorem sumThr_modify_same (a : Array Thr) (t : Nat) (f : Thr → Thr) (hf : ∀ th, wPot (f th) = wPot th) :
    sumThr (a.modify t f) = sumThr a := by
  by_cases h : t < a.size
  · have := sumThr_modify a t f h
    rw [hf] at this; omega
  · exact sumThr_modify_oob a t f h

theorem wPot_wakeW (th : Thr) : wPot (wakeW th) ≤ wPot th + 1 ∧ wP (wakeW th) = wP th := by
  unfold wakeW
  split
  · rename_i hp; simp [wPot, wP, wW, hp]
  · simp

theorem sumThr_wake (a : Array Thr) (t : Nat) : sumThr (a.modify t wakeW) ≤ sumThr a + 1 := by
  by_cases h : t < a.size
  · have := sumThr_modify a t wakeW h
    have := (wPot_wakeW a[t]!).1
    omega
  · rw [sumThr_modify_oob a t _ h]; omega

theorem hPf_wakeDeq (h : HPc) (n : Nat) : hPf (wakeDeq h) n = hPf h n ∧ hWf (wakeDeq h) ≤ hWf h + 1 := by
  rcases h with (_|_)|⟨t', (_|_)⟩|_|_|_ <;> simp [wakeDeq, hPf, hWf]

theorem hPf_wakeWait (t : Nat) (h : HPc) (n : Nat) :
    hPf (wakeWait t h) n = hPf h n ∧ hWf (wakeWait t h) ≤ hWf h + 1 := by
  rcases h with (_|_)|⟨t', (_|_)⟩|_|_|_ <;> simp [wakeWait, hPf, hWf]
  by_cases h : t' = t <;> simp [h]

theorem hPf_succ_le (h : HPc) (n : Nat) : hPf h (n + 1) ≤ hPf h n + 4 := by
  unfold hPf; split <;> omega

theorem cPf_wakeC (c : CPc) (a b m k : Nat) : cPf (wakeC c) a b m k = cPf c a b m k ∧ cWf (wakeC c) ≤ cWf c + 1 := by
  rcases c with (_|_)|_|_|_|_|_|(_|_)|_|_|_ <;> simp [wakeC, cPf, cWf]

variable {s s' : St}

/-- **Every real step strictly decreases the potential; a spurious wake-up adds at most one.** -/
theorem phi_step {l : Lbl} (h : Inv s) (hs : step s l = some s') :
    match l with | .run _ => Phi s' < Phi s | .spurious _ => Phi s' ≤ Phi s + 1 := by
  cases Step.of_step hs with
  | nextDone hc hj =>
    have : s.njobs - s.nextJob = 0 := by omega
    simp only [Phi, hc, cPf, cWf, this]; omega
  | nextTake hc hj hi => simp only [Phi, hc, cPf, cWf]; omega
  | nextSleep hc hj hi hm => simp only [Phi, hc, cPf, cWf]; omega
  | nextGrow hc hj hi hm => simp only [Phi, hc, cPf, cWf]; omega
  | create hc =>
    have := h.jobsLt (.inl hc)
    simp [Phi, hc, cPf, cWf, sumThr_push, wPot, wP, wW]; omega
  | @assign t hc =>
    have hlt := h.jobsLt (.inr ⟨t, hc⟩)
    obtain ⟨hp, hr, hcb, _, hrq⟩ := h.tAssign t hc
    have hsum := sumThr_modify s.thr t (fun th => wakeW { th with rq := !s.ordered, cb := some s.nextJob, running := true })
      (h.cHandLt t (by simp [hc, cHand]))
    have hw := wPot_wakeW { s.thr[t]! with rq := !s.ordered, cb := some s.nextJob, running := true }
    have hq := hPf_wakeWait t s.hpc s.queue.length
    have h0 : wP s.thr[t]! = 0 := by
      rw [isTop_iff] at hp
      rcases hp with hp | hp <;> simp [wP, hp, hr]
    have h1 : wP { s.thr[t]! with rq := !s.ordered, cb := some s.nextJob, running := true } ≤ 7 := by
      rw [isTop_iff] at hp
      rcases hp with hp | hp <;> simp [wP, hp] <;> split <;> omega
    have h2 : wW { s.thr[t]! with rq := !s.ordered, cb := some s.nextJob, running := true } = wW s.thr[t]! := by
      simp [wW]
    simp only [wPot] at hsum hw
    dsimp only at h1 h2
    simp [Phi, hc, cPf, cWf] at hsum hw hq ⊢
    omega
  | @enqueueOrd t hc ho =>
    have hj := h.jobsLe
    have hq := hPf_wakeDeq s.hpc (s.queue ++ [t]).length
    have := hPf_succ_le s.hpc s.queue.length
    simp [Phi, hc, cPf, cWf, pend] at hj hq ⊢; omega
  | enqueueUnord hc ho =>
    have hj := h.jobsLe
    simp only [hc, pend] at hj
    simp only [Phi, hc, cPf, cWf]; omega
  | finish hc =>
    have hq := hPf_wakeDeq s.hpc s.queue.length
    simp [Phi, hc, cPf, cWf] at hq ⊢; omega
  | joinH hc hh =>
    have := h.countLe
    simp only [Phi, hc, cPf, cWf]; omega
  | destroyDone hc h0 => simp only [Phi, hc, cPf, cWf]; omega
  | destroySleep hc h0 hi => simp only [Phi, hc, cPf, cWf]; omega
  | destroyTake hc h0 hi => simp only [Phi, hc, cPf, cWf]; omega
  | @kill t hc =>
    obtain ⟨hp, hr, hcb, _, hrq⟩ := h.tKill t hc
    have hcnt := (h.sizeDestroy (by simp [hc, inDestroy])).1
    simp [hc, cHand, o2n] at hcnt
    have hsum := sumThr_modify s.thr t (fun th => wakeW { th with running := true }) (h.cHandLt t (by simp [hc, cHand]))
    have hw := wPot_wakeW { s.thr[t]! with running := true }
    have hq := hPf_wakeWait t s.hpc s.queue.length
    have h0 : wP s.thr[t]! = 0 := by
      rw [isTop_iff] at hp
      rcases hp with hp | hp <;> simp [wP, hp, hr]
    have h1 : wP { s.thr[t]! with running := true } = 2 := by
      rw [isTop_iff] at hp
      rcases hp with hp | hp <;> simp [wP, hp, hcb]
    have h2 : wW { s.thr[t]! with running := true } = wW s.thr[t]! := by
      simp [wW]
    simp only [wPot] at hsum hw
    dsimp only at h1 h2
    simp [Phi, hc, cPf, cWf] at hsum hw hq ⊢
    omega
  | joinW hc he =>
    have hcnt := (h.sizeDestroy (by simp [hc, inDestroy])).1
    simp [hc, cHand, o2n] at hcnt
    simp only [Phi, hc, cPf, cWf]; omega
  | deqTake hh hq => simp only [Phi, hh, hq, hPf, hWf, List.length_cons]; omega
  | deqExit hh hq hf => simp only [Phi, hh, hPf, hWf]; omega
  | deqSleep hh hq hf => simp only [Phi, hh, hPf, hWf]; omega
  | waitSleep hh hr => simp only [Phi, hh, hPf, hWf]; omega
  | @waitTake t hh hr =>
    have := sumThr_modify_same s.thr t (fun th => { th with res := none }) (by intro th; simp [wPot, wP, wW])
    simp only [Phi, hh, hPf, hWf, this]; omega
  | giveBack hh =>
    have := cPf_wakeC s.cpc s.njobs s.nextJob s.max s.count
    simp only [Phi, hh, hPf, hWf]; omega
  | callback hh => simp only [Phi, hh, hPf, hWf]; omega
  | @wGo t ht hp hr =>
    have hsum := sumThr_modify s.thr t (fun th => { th with pc := .gotJob }) ht
    have : wPot { s.thr[t]! with pc := .gotJob } + 8 ≤ wPot s.thr[t]! := by
      simp only [wPot, wP, wW, hp, hr]; simp; split <;> omega
    dsimp only at this hsum; simp only [Phi]; omega
  | @wSleep t ht hp hr =>
    have hsum := sumThr_modify s.thr t (fun th => { th with pc := .top true }) ht
    have : wPot { s.thr[t]! with pc := .top true } + 1 ≤ wPot s.thr[t]! := by
      simp only [wPot, wP, wW, hp, hr]; simp
    dsimp only at this hsum; simp only [Phi]; omega
  | @wExit t ht hp hcb =>
    have hsum := sumThr_modify s.thr t (fun th => { th with pc := .exited }) ht
    have : wPot { s.thr[t]! with pc := .exited } + 8 ≤ wPot s.thr[t]! := by
      simp only [wPot, wP, wW, hp, hcb]; simp
    dsimp only at this hsum; simp only [Phi]; omega
  | @wRunUnord t j ht hp hcb hrq =>
    have hsum := sumThr_modify s.thr t
      (fun th => { th with res := some j, cb := none, rq := false, running := false, pc := .selfEnq }) ht
    have : wPot { s.thr[t]! with res := some j, cb := none, rq := false, running := false, pc := .selfEnq } + 8
        ≤ wPot s.thr[t]! := by
      simp only [wPot, wP, wW, hp, hcb, hrq]; simp
    dsimp only at this hsum; simp only [Phi]; omega
  | @wRunOrd t j ht hp hcb hrq =>
    have hsum := sumThr_modify s.thr t (fun th => { th with res := some j, cb := none, pc := .doneOrd }) ht
    have : wPot { s.thr[t]! with res := some j, cb := none, pc := .doneOrd } + 8 ≤ wPot s.thr[t]! := by
      simp only [wPot, wP, wW, hp, hcb]; simp; split <;> omega
    dsimp only at this hsum; simp only [Phi]; omega
  | @wEnq t ht hp =>
    obtain ⟨_, _, _, _, _, hw⟩ := h.selfEnq ht hp
    have hr : s.thr[t]!.running = false := by
      rcases hw with ⟨hq, _⟩ | ⟨_, hr, _⟩
      · rcases hq with hq | hq <;> simp [hp] at hq
      · exact hr
    have hsum := sumThr_modify s.thr t (fun th => { th with pc := .top false }) ht
    have : wPot { s.thr[t]! with pc := .top false } + 39 = wPot s.thr[t]! := by
      simp only [wPot, wP, wW, hp, hr]; simp
    have hq := hPf_wakeDeq s.hpc (s.queue.length + 1)
    have hle := hPf_succ_le s.hpc s.queue.length
    dsimp only at this hsum
    simp only [Phi, List.length_append, List.length_cons, List.length_nil, Nat.zero_add] at hq ⊢; omega
  | @wDone t ht hp =>
    have hsum := sumThr_modify s.thr t (fun th => wakeW { th with running := false, pc := .top false }) ht
    have hq := hPf_wakeWait t s.hpc s.queue.length
    have : wPot (wakeW { s.thr[t]! with running := false, pc := .top false }) + 7 = wPot s.thr[t]! := by
      simp only [wPot, wP, wW, wakeW, hp]; simp
    dsimp only at this hsum; simp only [Phi]; omega
  | spCaller hc =>
    have := cPf_wakeC s.cpc s.njobs s.nextJob s.max s.count
    simp only [Phi]; omega
  | spDeq hh => simp only [Phi, hh, hPf, hWf]; omega
  | spWait hh => simp only [Phi, hh, hPf, hWf]; omega
  | @spWorker t ht hp =>
    have hsum := sumThr_modify s.thr t (fun th => { th with pc := .top false }) ht
    have : wPot { s.thr[t]! with pc := .top false } = wPot s.thr[t]! + 1 := by
      simp only [wPot, wP, wW, hp]; simp
    dsimp only at this hsum; simp only [Phi]; omega

end Tp

namespace Tp
variable {max njobs : Nat} {ordered : Bool} {s : St}

/-- (real steps taken, spurious wake-ups taken) when the schedule `ls` is run from `s` (labels that are not enabled
    are skipped, exactly as in `runSched`) -/
def stepCount (s : St) : List Lbl → Nat × Nat
  | [] => (0, 0)
  | l :: ls => match step s l with
    | some s' => match l with
      | .run _ => ((stepCount s' ls).1 + 1, (stepCount s' ls).2)
      | .spurious _ => ((stepCount s' ls).1, (stepCount s' ls).2 + 1)
    | none => stepCount s ls

theorem steps_bounded_of_inv (h : Inv s) (ls : List Lbl) :
    (stepCount s ls).1 + Phi (runSched s ls) ≤ Phi s + (stepCount s ls).2 := by
  induction ls generalizing s with
  | nil => simp [stepCount, runSched]
  | cons l ls ih =>
    unfold stepCount runSched
    cases hs : step s l with
    | none => simpa using ih h
    | some s' =>
      have hd := phi_step h hs
      have := ih (inv_step h hs)
      cases l with
      | run w => simp only at hd ⊢; omega
      | spurious w => simp only at hd ⊢; omega

theorem Phi_init (max njobs : Nat) (ordered : Bool) : Phi (init max njobs ordered) = 128 * njobs + 40 * max + 42 := by
  simp [Phi, init, cPf, hPf, cWf, hWf, sumThr]; omega

/-- along EVERY schedule from the initial state — fair or not, any pool size, any number of jobs — the number of real
    steps is at most `128·njobs + 40·max + 42` plus the number of spurious wake-ups that occurred -/
theorem steps_bounded (hm : 1 ≤ max) (ls : List Lbl) :
    (stepCount (init max njobs ordered) ls).1 ≤ 128 * njobs + 40 * max + 42 + (stepCount (init max njobs ordered) ls).2 := by
  have := steps_bounded_of_inv (inv_init max njobs ordered hm) ls
  rw [Phi_init] at this; omega

/-- a state in which no thread can take a real step is the final state: nobody is left waiting -/
theorem no_hang (hm : 1 ≤ max) (hr : Reachable max njobs ordered s)
    (hq : ∀ w, (step s (.run w)).isSome = false) : terminated s = true := by
  cases ht : terminated s with
  | true => rfl
  | false =>
    obtain ⟨w, hw⟩ := C13_deadlock_free hm hr ht
    rw [hq w] at hw; cases hw

/-- from every reachable state the final state is reached by SOME schedule of at most `Phi s` real steps without any
    spurious wake-up (termination is always still possible) -/
theorem can_finish (hm : 1 ≤ max) (hr : Reachable max njobs ordered s) :
    ∃ ls : List Who, ls.length ≤ Phi s ∧ terminated (runSched s (ls.map .run)) = true := by
  generalize hn : Phi s = n
  induction n using Nat.strongRecOn generalizing s with
  | _ n ih =>
    cases ht : terminated s with
    | true => exact ⟨[], by simp, by simpa [runSched] using ht⟩
    | false =>
      obtain ⟨w, hw⟩ := C13_deadlock_free hm hr ht
      obtain ⟨s', hs⟩ := Option.isSome_iff_exists.mp hw
      have hd := phi_step (inv_reachable hm hr) hs
      simp only at hd
      obtain ⟨ls, hl, hfin⟩ := ih (Phi s') (by omega) (.step hr hs) rfl
      refine ⟨w :: ls, by simp; omega, ?_⟩
      simp only [List.map_cons, runSched, hs]
      exact hfin

end Tp
