import MtblModel.Compress
import MtblProofs.VarintProofs
/-
  C15 — the compression wrappers (MtblModel/Compress.lean).  In this order: the level each algorithm hands to its
  library; `compress` per algorithm as one equation (what reaches the library); the round trip relative to the library
  contracts `LibOK`, with the two repair flags as variables (`roundtrip_gen`: the repaired and the pinned code are
  instances); which wrappers contain an assertion at all; the name table (`typeFromStr_iff`); the toy library as a
  model of `LibOK`, and the defects F4 and F5 exhibited on it.
-/
namespace Mtbl
namespace Cz

theorem U32_eq : U32 = 2 ^ 32 := by decide
theorem INT_MAX_lt_U32 : INT_MAX < U32 := by decide

@[simp] theorem effLevel_none (L : Lib) (l : Option Int) : effLevel L .none l = 0 := rfl
@[simp] theorem effLevel_snappy (L : Lib) (l : Option Int) : effLevel L .snappy l = 0 := rfl
@[simp] theorem effLevel_lz4 (L : Lib) (l : Option Int) : effLevel L .lz4 l = 0 := rfl
@[simp] theorem effLevel_zlib_default (L : Lib) : effLevel L .zlib none = -1 := rfl
@[simp] theorem effLevel_zlib (L : Lib) (l : Int) :
    effLevel L .zlib (some l) = if l < -1 then 0 else if l > 9 then 9 else l := rfl
@[simp] theorem effLevel_lz4hc_default (L : Lib) : effLevel L .lz4hc none = 9 := rfl
@[simp] theorem effLevel_lz4hc (L : Lib) (l : Int) :
    effLevel L .lz4hc (some l) = if l < 0 then 0 else l := rfl
@[simp] theorem effLevel_zstd_default (L : Lib) :
    effLevel L .zstd none = if 9 < L.zstdMin then L.zstdMin else if 9 > L.zstdMax then L.zstdMax else 9 := rfl
@[simp] theorem effLevel_zstd (L : Lib) (l : Int) :
    effLevel L .zstd (some l) = if l < L.zstdMin then L.zstdMin else if l > L.zstdMax then L.zstdMax else l := rfl

theorem effLevel_zlib_range (L : Lib) (l : Option Int) : -1 ≤ effLevel L .zlib l ∧ effLevel L .zlib l ≤ 9 := by
  cases l with
  | none => rw [effLevel_zlib_default]; omega
  | some l => rw [effLevel_zlib]; omega

theorem effLevel_lz4hc_range (L : Lib) (l : Option Int) : 0 ≤ effLevel L .lz4hc l := by
  cases l with
  | none => rw [effLevel_lz4hc_default]; omega
  | some l => rw [effLevel_lz4hc]; omega

theorem effLevel_zstd_range (L : Lib) (hmm : L.zstdMin ≤ L.zstdMax) (l : Option Int) :
    L.zstdMin ≤ effLevel L .zstd l ∧ effLevel L .zstd l ≤ L.zstdMax := by
  cases l with
  | none => rw [effLevel_zstd_default]; omega
  | some l => rw [effLevel_zstd]; omega

theorem effLevel_zlib_id (L : Lib) (l : Int) (h1 : -1 ≤ l) (h2 : l ≤ 9) : effLevel L .zlib (some l) = l := by
  rw [effLevel_zlib]; omega
theorem effLevel_lz4hc_id (L : Lib) (l : Int) (h1 : 0 ≤ l) : effLevel L .lz4hc (some l) = l := by
  rw [effLevel_lz4hc]; omega
theorem effLevel_zstd_id (L : Lib) (l : Int) (h1 : L.zstdMin ≤ l) (h2 : l ≤ L.zstdMax) :
    effLevel L .zstd (some l) = l := by
  rw [effLevel_zstd]; omega

theorem compress_level_congr (f : Bool) (L : Lib) (a : Algo) (l₁ l₂ : Option Int) (input : Bytes)
    (h : effLevel L a l₁ = effLevel L a l₂) : compress f L a l₁ input = compress f L a l₂ input := by
  simp only [compress, h]

theorem compress_snappy_level (f : Bool) (L : Lib) (l₁ l₂ : Option Int) (input : Bytes) :
    compress f L .snappy l₁ input = compress f L .snappy l₂ input := compress_level_congr _ _ _ _ _ _ rfl
theorem compress_lz4_level (f : Bool) (L : Lib) (l₁ l₂ : Option Int) (input : Bytes) :
    compress f L .lz4 l₁ input = compress f L .lz4 l₂ input := compress_level_congr _ _ _ _ _ _ rfl

theorem compress_default_zlib (f : Bool) (L : Lib) (input : Bytes) :
    compress f L .zlib none input = compress f L .zlib (some (-1)) input := compress_level_congr _ _ _ _ _ _ rfl
theorem compress_default_lz4hc (f : Bool) (L : Lib) (input : Bytes) :
    compress f L .lz4hc none input = compress f L .lz4hc (some 9) input := compress_level_congr _ _ _ _ _ _ rfl
theorem compress_default_zstd (f : Bool) (L : Lib) (input : Bytes) :
    compress f L .zstd none input = compress f L .zstd (some 9) input := compress_level_congr _ _ _ _ _ _ rfl

theorem compress_snappy (f : Bool) (L : Lib) (l : Option Int) (input : Bytes) :
    compress f L .snappy l input =
      match L.comp .snappy 0 (L.bound .snappy input.length) input with
      | some o => .ok o
      | none => .fail := rfl

theorem compress_zlib (f : Bool) (L : Lib) (l : Option Int) (input : Bytes) :
    compress f L .zlib l input =
      let cap := if f then L.deflateBound (effLevel L .zlib l) input.length else 2 * input.length
      if input.length ≥ U32 ∨ cap ≥ U32 then .wrap
      else match L.comp .zlib (effLevel L .zlib l) cap input with
        | some o => .ok o
        | none => .abort := by
  have hr := effLevel_zlib_range L l
  simp only [compress, libCap, dstCap]
  rw [if_neg (by omega)]
  rfl

theorem compress_lz4 (f : Bool) (L : Lib) (l : Option Int) (input : Bytes) :
    compress f L .lz4 l input =
      if input.length > INT_MAX then .fail
      else match L.comp .lz4 0 (L.bound .lz4 input.length) input with
        | none => .fail
        | some o => if o.isEmpty then .fail else .ok (fixed32 input.length ++ o) := by
  simp only [compress, libCap, dstCap, effLevel_lz4, Nat.add_sub_cancel]
  rfl

theorem compress_lz4hc (f : Bool) (L : Lib) (l : Option Int) (input : Bytes) :
    compress f L .lz4hc l input =
      if input.length > INT_MAX then .fail
      else match L.comp .lz4hc (effLevel L .lz4hc l) (L.bound .lz4 input.length) input with
        | none => .fail
        | some o => if o.isEmpty then .fail else .ok (fixed32 input.length ++ o) := by
  simp only [compress, libCap, dstCap, Nat.add_sub_cancel]
  rfl

theorem compress_zstd (f : Bool) (L : Lib) (l : Option Int) (input : Bytes) :
    compress f L .zstd l input =
      if input.length > INT_MAX then .fail
      else match L.comp .zstd (effLevel L .zstd l)
          (if L.bound .zstd input.length < INT_MAX / 2 then 2 * L.bound .zstd input.length
           else L.bound .zstd input.length) input with
        | some o => .ok o
        | none => .fail := by
  simp only [compress, libCap, dstCap]
  rfl

theorem sized_eq {size : Nat} {o : Bytes} (h : o.length = size) : sized size o = o := by
  simp [sized, ← h]

theorem inflateLoop_ok {L : Lib} (h : LibOK L) {lvl : Int} {cap : Nat} {inp out : Bytes}
    (hc : L.comp .zlib lvl cap inp = some out) (hn : inp.length < U32) :
    ∀ fuel room, inp.length ≤ room * 2 ^ fuel → inflateLoop L out fuel room = .ok inp := by
  intro fuel
  induction fuel with
  | zero =>
    intro room hr
    have hd := h.roundtrip .zlib lvl cap inp out room (by decide) hn hc (by omega)
    simp only [decoder] at hd
    rw [inflateLoop, hd]
  | succ fuel ih =>
    intro room hr
    by_cases hle : inp.length ≤ room
    · have hd := h.roundtrip .zlib lvl cap inp out room (by decide) hn hc hle
      simp only [decoder] at hd
      rw [inflateLoop, hd]
    · have hd := h.zlib_too_small lvl cap inp out room hc (by omega)
      rw [inflateLoop, hd]
      simp only
      rw [if_neg (by omega)]
      apply ih
      rw [Nat.pow_succ] at hr
      rw [Nat.mul_comm 2 room, Nat.mul_assoc, Nat.mul_comm 2]
      exact hr

/-- the statement shape of C15 for one call -/
def RT (f4 f5 : Bool) (L : Lib) (a : Algo) (level : Option Int) (input : Bytes) : Prop :=
  compress f4 L a level input = .fail ∨
    ∃ out, compress f4 L a level input = .ok out ∧ decompress f5 L a out = .ok input

theorem rt_snappy (f4 f5 : Bool) {L : Lib} (h : LibOK L) (level : Option Int) (input : Bytes)
    (hn : input.length < U32) : RT f4 f5 L .snappy level input := by
  unfold RT
  rw [compress_snappy]
  cases hc : L.comp .snappy 0 (L.bound .snappy input.length) input with
  | none => exact Or.inl rfl
  | some o =>
    refine Or.inr ⟨o, rfl, ?_⟩
    have hs := h.snappy_size _ _ _ _ hn hc
    have hd := h.roundtrip .snappy _ _ _ _ input.length (by decide) hn hc (Nat.le_refl _)
    simp only [decoder] at hd
    simp only [decompress, hs, hd]

theorem rt_zstd (f4 f5 : Bool) {L : Lib} (h : LibOK L) (level : Option Int) (input : Bytes)
    (hn : input.length ≤ INT_MAX) (hb : L.bound .zstd input.length ≤ INT_MAX)
    (h5 : f5 = false → input.length ≠ 0) : RT f4 f5 L .zstd level input := by
  unfold RT
  rw [compress_zstd, if_neg (by omega)]
  have hn' : input.length < U32 := by have := INT_MAX_lt_U32; omega
  split
  next o hc =>
    refine Or.inr ⟨o, rfl, ?_⟩
    have hs := h.zstd_size _ _ _ _ hn' hc
    -- the frame passes the decompressor's INT_MAX guard: it fits the destination, which is at most INT_MAX
    have hf := h.fits _ _ _ _ _ hc
    have hd : L.decomp .zstd input.length o = .ok input :=
      h.roundtrip .zstd _ _ _ _ input.length (by decide) hn' hc (Nat.le_refl _)
    have hz : ¬ (input.length = 0 ∧ (!f5) = true) := by
      cases f5 with
      | true => simp
      | false => intro hh; exact h5 rfl hh.1
    have hg : ¬ o.length > INT_MAX := by
      have : INT_MAX = 2147483647 := rfl
      split at hf <;> omega
    simp only [decompress, hs, hd]
    rw [if_neg hg, if_neg hz, sized_eq rfl]
  next => exact Or.inl rfl

theorem decompressLz4_frame {L : Lib} {input o : Bytes} (hn : input.length ≤ INT_MAX)
    (ho : o.length + 4 ≤ INT_MAX) (hd : L.decomp .lz4 input.length o = .ok input) :
    decompressLz4 L (fixed32 input.length ++ o) = .ok input := by
  have hn' : input.length < 2 ^ 32 := by rw [← U32_eq]; have := INT_MAX_lt_U32; omega
  have hlen : (fixed32 input.length ++ o).length = 4 + o.length := by
    rw [List.length_append, fixed32_length]
  unfold decompressLz4
  simp only [dec32_fixed32 hn' o, hlen]
  rw [if_neg (by omega), if_neg (by omega),
    List.drop_append_of_le_length (by rw [fixed32_length]; omega), List.drop_of_length_le (by rw [fixed32_length]; omega),
    List.nil_append, hd]
  simp only
  rw [sized_eq rfl]

/-- lz4 and lz4hc: the same framing, the same decompressor -/
theorem rt_lz4 (f4 f5 : Bool) {L : Lib} (h : LibOK L) (a : Algo) (ha : a = .lz4 ∨ a = .lz4hc) (level : Option Int)
    (input : Bytes) (hn : input.length ≤ INT_MAX) (hb : L.bound .lz4 input.length + 4 ≤ INT_MAX) :
    RT f4 f5 L a level input := by
  have hn' : input.length < U32 := by have := INT_MAX_lt_U32; omega
  have hc : compress f4 L a level input =
      if input.length > INT_MAX then .fail
      else match L.comp a (effLevel L a level) (L.bound .lz4 input.length) input with
        | none => .fail
        | some o => if o.isEmpty then .fail else .ok (fixed32 input.length ++ o) := by
    rcases ha with rfl | rfl
    · exact compress_lz4 f4 L level input
    · exact compress_lz4hc f4 L level input
  have hdec : ∀ stored, decompress f5 L a stored = decompressLz4 L stored := by
    rcases ha with rfl | rfl <;> exact fun _ => rfl
  have hne : a ≠ .none := by rcases ha with rfl | rfl <;> decide
  have hlz : decoder a = .lz4 := by rcases ha with rfl | rfl <;> rfl
  unfold RT
  rw [hc, if_neg (by omega)]
  split
  next => exact Or.inl rfl
  next o hco =>
    split
    · exact Or.inl rfl
    · refine Or.inr ⟨_, rfl, ?_⟩
      have hf := h.fits _ _ _ _ _ hco
      have hd := h.roundtrip a _ _ _ _ input.length hne hn' hco (Nat.le_refl _)
      rw [hlz] at hd
      rw [hdec]
      exact decompressLz4_frame hn (by omega) hd

theorem compress_zlib_ok (f4 : Bool) {L : Lib} (h : LibOK L) (level : Option Int) (input : Bytes)
    (hn : input.length < U32)
    (hcap : dstCap f4 L .zlib (effLevel L .zlib level) input.length < U32)
    (h4 : f4 = false → L.deflateBound (effLevel L .zlib level) input.length ≤ 2 * input.length) :
    ∃ out, compress f4 L .zlib level input = .ok out ∧
      L.comp .zlib (effLevel L .zlib level) (dstCap f4 L .zlib (effLevel L .zlib level) input.length) input = some out := by
  have hr := effLevel_zlib_range L level
  rw [compress_zlib]
  simp only [dstCap] at hcap ⊢
  have hb : L.deflateBound (effLevel L .zlib level) input.length ≤
      (if f4 = true then L.deflateBound (effLevel L .zlib level) input.length else 2 * input.length) := by
    cases f4 with
    | true => simp
    | false => simpa using h4 rfl
  have hs := h.zlib_finishes _ _ input hr.1 hr.2 hn hb
  rw [if_neg (by omega)]
  cases hc : L.comp .zlib (effLevel L .zlib level)
      (if f4 = true then L.deflateBound (effLevel L .zlib level) input.length else 2 * input.length) input with
  | none => rw [hc] at hs; simp at hs
  | some o => exact ⟨o, rfl, rfl⟩

theorem rt_zlib (f4 f5 : Bool) {L : Lib} (h : LibOK L) (level : Option Int) (input : Bytes)
    (hn : input.length ≤ INT_MAX)
    (hfit : 4 * dstCap f4 L .zlib (effLevel L .zlib level) input.length + 1024 < U32)
    (h4 : f4 = false → L.deflateBound (effLevel L .zlib level) input.length ≤ 2 * input.length) :
    RT f4 f5 L .zlib level input := by
  have hn' : input.length < U32 := by have := INT_MAX_lt_U32; omega
  obtain ⟨out, hco, hc⟩ := compress_zlib_ok f4 h level input hn' (by omega) h4
  refine Or.inr ⟨out, hco, ?_⟩
  have hf := h.fits _ _ _ _ _ hc
  have hloop := inflateLoop_ok h hc hn' 32 (4 * out.length - (4 * out.length) % 1024 + 1024) (by
    have h1 : INT_MAX ≤ 1024 * 2 ^ 32 := by decide
    have h2 : 1024 ≤ 4 * out.length - (4 * out.length) % 1024 + 1024 := by omega
    exact Nat.le_trans (Nat.le_trans hn h1) (Nat.mul_le_mul_right _ h2))
  simp only [decompress]
  rw [if_neg (by have := Nat.mod_le (4 * out.length) 1024; omega)]
  exact hloop

/-- C15 for both the pinned and the repaired wrappers: the two side conditions `h4`, `h5` are exactly what the
    defects F4 and F5 violate, and they are vacuous for the repaired code (`f4 = f5 = true`). -/
theorem roundtrip_gen (f4 f5 : Bool) {L : Lib} (h : LibOK L) (a : Algo) (ha : a ≠ .none) (level : Option Int)
    (input : Bytes) (hn : input.length ≤ INT_MAX)
    (hfit : Fits f4 L a (effLevel L a level) input.length)
    (h4 : f4 = false → a = .zlib → L.deflateBound (effLevel L .zlib level) input.length ≤ 2 * input.length)
    (h5 : f5 = false → a = .zstd → input.length ≠ 0) :
    RT f4 f5 L a level input := by
  have hn' : input.length < U32 := by have := INT_MAX_lt_U32; omega
  cases a with
  | none => exact absurd rfl ha
  | snappy => exact rt_snappy f4 f5 h level input hn'
  | zlib => exact rt_zlib f4 f5 h level input hn hfit (fun e => h4 e rfl)
  | lz4 => exact rt_lz4 f4 f5 h .lz4 (Or.inl rfl) level input hn hfit
  | lz4hc => exact rt_lz4 f4 f5 h .lz4hc (Or.inr rfl) level input hn hfit
  | zstd => exact rt_zstd f4 f5 h level input hn hfit (fun e => h5 e rfl)

theorem fits_of_boundSane {L : Lib} (hb : BoundSane L) (a : Algo) (lvl : Int) (n : Nat) (hn : n ≤ 536870912) :
    Fits true L a lvl n := by
  have h1 := hb.1 .lz4 n
  have h2 := hb.1 .zstd n
  have h3 := hb.2 lvl n
  cases a <;> simp only [Fits, dstCap, U32, INT_MAX, if_true] <;> omega

theorem compress_none (f : Bool) (L : Lib) (l : Option Int) (input : Bytes) : compress f L .none l input = .fail := rfl
theorem decompress_none (f : Bool) (L : Lib) (stored : Bytes) : decompress f L .none stored = .fail := rfl

theorem compressT_unknown (f : Bool) (L : Lib) (t : Nat) (ht : 6 ≤ t) (l : Option Int) (input : Bytes) :
    compressT f L t l input = .fail := by
  match t, ht with
  | n + 6, _ => rfl

theorem decompressT_unknown (f : Bool) (L : Lib) (t : Nat) (ht : 6 ≤ t) (stored : Bytes) :
    decompressT f L t stored = .fail := by
  match t, ht with
  | n + 6, _ => rfl

/-- the snappy, lz4, lz4hc and zstd compress wrappers contain no assertion: whatever the library does
    (no `LibOK` needed) and whatever the input size, the result is success or reported failure -/
theorem compress_graceful_of_ne_zlib (f : Bool) (L : Lib) (a : Algo) (ha : a ≠ .zlib) (l : Option Int)
    (input : Bytes) : (compress f L a l input).graceful = true := by
  cases a with
  | zlib => exact absurd rfl ha
  | none => rfl
  | snappy => rw [compress_snappy]; split <;> rfl
  | lz4 => rw [compress_lz4]; repeat' split
           all_goals rfl
  | lz4hc => rw [compress_lz4hc]; repeat' split
             all_goals rfl
  | zstd => rw [compress_zstd]; repeat' split
            all_goals rfl

theorem decompressLz4_graceful (L : Lib) (stored : Bytes) : (decompressLz4 L stored).graceful = true := by
  simp only [decompressLz4]
  repeat' split
  all_goals rfl

theorem decompress_graceful_of_ne_zlib (L : Lib) (a : Algo) (ha : a ≠ .zlib) (stored : Bytes) :
    (decompress true L a stored).graceful = true := by
  cases a with
  | zlib => exact absurd rfl ha
  | none => rfl
  | snappy => simp only [decompress]; repeat' split
              all_goals rfl
  | lz4 => exact decompressLz4_graceful L stored
  | lz4hc => exact decompressLz4_graceful L stored
  | zstd => simp only [decompress]; repeat' split
            all_goals first | rfl | simp_all

theorem typeToStr_unknown : ∀ t, 6 ≤ t → typeToStr t = none := by
  intro t ht
  match t, ht with
  | n + 6, _ => rfl

/-- one link of the `strcasecmp` chain -/
theorem ite_beq_some {x n : String} {a t : Nat} {r : Option Nat} (h : (if x == n then some a else r) = some t) :
    (x = n ∧ a = t) ∨ r = some t := by
  by_cases hc : x = n
  · rw [if_pos (beq_iff_eq.2 hc)] at h; exact Or.inl ⟨hc, Option.some.inj h⟩
  · rw [if_neg (mt beq_iff_eq.1 hc)] at h; exact Or.inr h

/-- EXACT characterisation of `mtbl_compression_type_from_str`: a string is accepted, with value `t`, iff folding
    its letters A–Z to lower case gives the name `mtbl_compression_type_to_str` prints for `t` -/
theorem typeFromStr_iff (s : String) (t : Nat) :
    typeFromStr s = some t ↔ typeToStr t = some s.toLower := by
  unfold typeFromStr caseEq
  generalize s.toLower = x
  constructor
  · -- down the chain: the link that answers names its own string
    intro h
    rcases ite_beq_some h with ⟨rfl, rfl⟩ | h
    · rfl
    rcases ite_beq_some h with ⟨rfl, rfl⟩ | h
    · rfl
    rcases ite_beq_some h with ⟨rfl, rfl⟩ | h
    · rfl
    rcases ite_beq_some h with ⟨rfl, rfl⟩ | h
    · rfl
    rcases ite_beq_some h with ⟨rfl, rfl⟩ | h
    · rfl
    rcases ite_beq_some h with ⟨rfl, rfl⟩ | h
    · rfl
    cases h
  · -- the six names are distinct, so no earlier link answers: evaluation on the literals
    intro h
    match t, h with
    | 0, h => cases h; decide +kernel
    | 1, h => cases h; decide +kernel
    | 2, h => cases h; decide +kernel
    | 3, h => cases h; decide +kernel
    | 4, h => cases h; decide +kernel
    | 5, h => cases h; decide +kernel
    | n + 6, h => cases h

theorem names_roundtrip : ∀ t, t < 6 → ∃ s, typeToStr t = some s ∧ typeFromStr s = some t := by
  intro t ht
  match t, ht with
  | 0, _ => exact ⟨_, rfl, by decide +kernel⟩
  | 1, _ => exact ⟨_, rfl, by decide +kernel⟩
  | 2, _ => exact ⟨_, rfl, by decide +kernel⟩
  | 3, _ => exact ⟨_, rfl, by decide +kernel⟩
  | 4, _ => exact ⟨_, rfl, by decide +kernel⟩
  | 5, _ => exact ⟨_, rfl, by decide +kernel⟩

theorem typeFromStr_lt (s : String) (t : Nat) (h : typeFromStr s = some t) : t < 6 := by
  rw [typeFromStr_iff] at h
  apply Classical.byContradiction
  intro hge
  rw [typeToStr_unknown t (by omega)] at h
  cases h

theorem typeFromStr_none_iff (s : String) : typeFromStr s = none ↔ ∀ t, typeToStr t ≠ some s.toLower := by
  constructor
  · intro h t ht
    rw [← typeFromStr_iff, h] at ht
    cases ht
  · intro h
    cases hs : typeFromStr s with
    | none => rfl
    | some t => exact absurd ((typeFromStr_iff s t).1 hs) (h t)

theorem toyHdr_length (a : Algo) (n : Nat) : (toyHdr a n).length = toyHdrLen a := by
  cases a <;> rfl

theorem toyHdrLen_decoder (a : Algo) : toyHdrLen (decoder a) = toyHdrLen a := by
  cases a <;> rfl

theorem toy_comp_some {a : Algo} {lvl : Int} {cap : Nat} {inp out : Bytes}
    (h : toy.comp a lvl cap inp = some out) :
    out = toyHdr a inp.length ++ inp ∧ toyHdrLen a + inp.length ≤ cap := by
  simp only [toy] at h
  split at h
  · rename_i hle
    rw [List.length_append, toyHdr_length] at hle
    cases h
    exact ⟨rfl, hle⟩
  · cases h

theorem toy_drop (a : Algo) (n : Nat) (inp : Bytes) : (toyHdr a n ++ inp).drop (toyHdrLen a) = inp := by
  rw [← toyHdr_length a n, List.drop_left]

theorem toyLen_hdr {n : Nat} (hn : n < U32) (inp : Bytes) : toyLen (fixed32 n ++ inp) = some n := by
  unfold toyLen
  rw [if_neg (by rw [List.length_append, fixed32_length]; omega), dec32_fixed32 (by rw [← U32_eq]; exact hn)]

theorem toy_ok : LibOK toy where
  fits := by
    intro a lvl cap inp out h
    obtain ⟨rfl, hle⟩ := toy_comp_some h
    rw [List.length_append, toyHdr_length]; exact hle
  roundtrip := by
    intro a lvl cap inp out room _ _ h hroom
    obtain ⟨rfl, _⟩ := toy_comp_some h
    simp only [toy, toyHdrLen_decoder, toy_drop]
    rw [if_neg (by rw [List.length_append, toyHdr_length]; omega), if_pos hroom]
  zlib_too_small := by
    intro lvl cap inp out room h hroom
    obtain ⟨rfl, _⟩ := toy_comp_some h
    simp only [toy, toy_drop]
    rw [if_neg (by rw [List.length_append, toyHdr_length]; omega), if_neg (by omega)]
  zlib_finishes := by
    intro lvl cap inp _ _ _ hcap
    simp only [toy] at hcap ⊢
    rw [if_pos (by rw [List.length_append, toyHdr_length]; simp only [toyHdrLen]; omega)]
    rfl
  zstd_size := by
    intro lvl cap inp out hn h
    obtain ⟨rfl, _⟩ := toy_comp_some h
    exact toyLen_hdr hn inp
  snappy_size := by
    intro lvl cap inp out hn h
    obtain ⟨rfl, _⟩ := toy_comp_some h
    exact toyLen_hdr hn inp

theorem toy_boundSane : BoundSane toy := by
  have hh : ∀ a, toyHdrLen a ≤ 11 := by intro a; cases a <;> decide
  constructor
  · intro a n
    show n + toyHdrLen a ≤ _
    have := hh a
    omega
  · intro lvl n
    show n + 11 ≤ _
    omega

theorem C15_roundtrip {L : Lib} (h : LibOK L) (a : Algo) (ha : a ≠ .none) (level : Option Int) (input : Bytes)
    (hn : input.length ≤ INT_MAX) (hfit : Fits true L a (effLevel L a level) input.length) :
    compress true L a level input = .fail ∨
      ∃ out, compress true L a level input = .ok out ∧ decompress true L a out = .ok input :=
  roundtrip_gen true true h a ha level input hn hfit (fun e => by cases e) (fun e => by cases e)

theorem compress_graceful {L : Lib} (h : LibOK L) (a : Algo) (level : Option Int) (input : Bytes)
    (hz : a = .zlib → input.length < U32 ∧ L.deflateBound (effLevel L .zlib level) input.length < U32) :
    (compress true L a level input).graceful = true := by
  by_cases ha : a = .zlib
  · subst ha
    obtain ⟨h1, h2⟩ := hz rfl
    obtain ⟨out, ho, _⟩ := compress_zlib_ok true h level input h1 h2 (fun e => by cases e)
    rw [ho]; rfl
  · exact compress_graceful_of_ne_zlib true L a ha level input

theorem decompress_of_compress {L : Lib} (h : LibOK L) (a : Algo) (level : Option Int)
    (input out : Bytes) (hn : input.length ≤ INT_MAX) (hfit : Fits true L a (effLevel L a level) input.length)
    (hc : compress true L a level input = .ok out) : decompress true L a out = .ok input := by
  have ha : a ≠ .none := by
    intro e; subst e; cases hc
  rcases C15_roundtrip h a ha level input hn hfit with hf | ⟨o, ho, hd⟩
  · rw [hf] at hc; cases hc
  · rw [ho] at hc; cases hc; exact hd

theorem C15_names :
    (∀ t, t < 6 → ∃ s, typeToStr t = some s ∧ typeFromStr s = some t) ∧
    (∀ t, 6 ≤ t → typeToStr t = none) ∧
    (∀ s t, typeFromStr s = some t ↔ typeToStr t = some s.toLower) ∧
    (∀ s t, typeFromStr s = some t → t < 6) ∧
    (∀ s, typeFromStr s = none ↔ ∀ t, typeToStr t ≠ some s.toLower) :=
  ⟨names_roundtrip, typeToStr_unknown, typeFromStr_iff, typeFromStr_lt, typeFromStr_none_iff⟩

theorem F4_witness : ∃ L, LibOK L ∧ compress false L .zlib none [1, 2, 3] = .abort ∧
    ∃ out, compress true L .zlib none [1, 2, 3] = .ok out ∧ decompress true L .zlib out = .ok [1, 2, 3] :=
  ⟨toy, toy_ok, by decide, [0, 0, 0, 0, 0, 0, 0, 0, 0, 0, 0, 1, 2, 3], by decide, by decide⟩

theorem F5_witness : ∃ L, LibOK L ∧ ∃ out, compress false L .zstd none [] = .ok out ∧
    compress true L .zstd none [] = .ok out ∧
    decompress false L .zstd out = .fail ∧ decompress true L .zstd out = .ok [] :=
  ⟨toy, toy_ok, [0, 0, 0, 0], by decide, by decide, by decide, by decide⟩

/-- outside C15 (the bytes do not come from `mtbl_compress`): on bytes whose frame header zstd cannot read, the
    pinned decompressor aborts in `my_malloc`; a corrupt deflate stream aborts `_mtbl_decompress_zlib` in both
    versions (the assertion on `inflate`'s return value) -/
theorem garbage_aborts_witness : decompress false toy .zstd [] = .abort ∧ decompress true toy .zstd [] = .fail ∧
    decompress true toy .zlib [1, 2, 3] = .abort := ⟨by decide, by decide, by decide⟩

theorem zlib_wrap_witness : compress true toy .zlib none (List.replicate (U32 - 11) 0) = .wrap := by
  rw [compress_zlib]
  simp only [List.length_replicate, if_true, toy]
  rw [if_pos (Or.inr (by decide))]

/-- non-vacuity of the round-trip theorem: the toy library is an instance, for every algorithm, level and every
    input up to 512 MiB, and there compress always succeeds -/
theorem toy_roundtrip (a : Algo) (ha : a ≠ .none) (level : Option Int) (input : Bytes)
    (hn : input.length ≤ 536870912) :
    compress true toy a level input = .fail ∨
      ∃ out, compress true toy a level input = .ok out ∧ decompress true toy a out = .ok input :=
  C15_roundtrip toy_ok a ha level input (by simp only [INT_MAX]; omega) (fits_of_boundSane toy_boundSane a _ _ hn)

example : compress true toy .lz4hc (some (-7)) [9, 9, 9, 9] = .ok [4, 0, 0, 0, 0, 9, 9, 9, 9] ∧
    decompress true toy .lz4 [4, 0, 0, 0, 0, 9, 9, 9, 9] = .ok [9, 9, 9, 9] := ⟨by decide, by decide⟩

end Cz
end Mtbl
