import MtblModel.Crc
import MtblModel.Varint
import MtblProofs.CrcProofs
import MtblProofs.VarintProofs
/-
  C12: error detection strength of the per-block CRC-32C (`dec32 field = crc32c stored`).

  Damage is an xor mask `(ep, ef)` on (stored bytes, checksum field).  By GF(2)-linearity the damaged block
  is accepted iff `crcRaw 0 ep = dec32 ef` (`blockVerifies_damaged`), and then the error word `ep ++ ef`,
  read as the little-endian number `N = leLoad (ep ++ ef)`, satisfies `crcZ^[8·len + 32] N = 0`
  (`CrcD.syndrome_zero`).  So a pattern whose syndrome is not zero is rejected (`detect_of_syndrome`), and each
  detection theorem is one reason why the syndrome cannot vanish:
  * odd weight: `crcZ` preserves the parity of the popcount on all of `Nat` (the polynomial constant has 17
    set bits, i.e. the generator with its x^32 term has 18 = even many, it is divisible by x+1);
  * bursts ≤ 32 bits: `N = 2^lo * M`, `0 < M < 2^32`; `lo` shifts give `M`, and `crcZ` is injective on
    32-bit registers (bit 31 of the polynomial constant is set);
  * two bits: reduces to `crcZ^[d] 1 = 1` with `0 < d < 2^31 - 1`; but `crcZ^[2^31 - 1] 1 = 1`
    (31 squarings of `x` in GF(2)[x] modulo the polynomial, kernel-evaluated) and `2^31 - 1` is prime
    (trial division, kernel-evaluated), so the order of `x` is exactly `2^31 - 1`.
-/
namespace Mtbl

def xorBytes (a b : Bytes) : Bytes := List.zipWith (· ^^^ ·) a b
def popcount8 (b : UInt8) : Nat := (List.range 8).foldl (fun acc i => acc + (b.toNat >>> i) % 2) 0
def weight (e : Bytes) : Nat := (e.map popcount8).sum
/-- the acceptance test of get_block / mtbl_reader_init_fd / mtbl_verify on a block -/
def blockVerifies (payload field : Bytes) : Bool := dec32 field == crc32c payload
/-- bit `i` of a byte string in CRC transmission order: byte i/8, bit i%8 counted from the least
    significant bit -/
def bitAt (e : Bytes) (i : Nat) : Bool := ((e.getD (i / 8) 0).toNat >>> (i % 8)) % 2 == 1
/-- all set bits of `e` lie in a window of `w` consecutive bit positions -/
def burstWithin (e : Bytes) (w : Nat) : Prop := ∃ lo, ∀ i, bitAt e i = true → lo ≤ i ∧ i < lo + w

namespace CrcD
open CrcP

theorem mul_xor_two_pow (k a b : Nat) : 2 ^ k * (a ^^^ b) = 2 ^ k * a ^^^ 2 ^ k * b := by
  have := @Nat.shiftLeft_xor_distrib k a b
  simp only [Nat.shiftLeft_eq] at this
  simpa only [Nat.mul_comm] using this

theorem xor_left_cancel_iff (c a b : Nat) : c ^^^ a = c ^^^ b ↔ a = b := by
  constructor
  · intro h
    have : c ^^^ (c ^^^ a) = c ^^^ (c ^^^ b) := by rw [h]
    simpa [← Nat.xor_assoc] using this
  · intro h; rw [h]

theorem xor_eq_left_iff (c a : Nat) : c ^^^ a = c ↔ a = 0 := by
  have := xor_left_cancel_iff c a 0
  rwa [Nat.xor_zero] at this

theorem leLoad_xor (a b : Bytes) (h : a.length = b.length) :
    leLoad (xorBytes a b) = leLoad a ^^^ leLoad b := by
  induction a generalizing b with
  | nil => cases b <;> simp [xorBytes, leLoad] at *
  | cons x xs ih =>
    cases b with
    | nil => simp at h
    | cons y ys =>
      have h' : xs.length = ys.length := by simpa using h
      have ih' := ih ys h'
      simp only [xorBytes, List.zipWith_cons_cons] at ih' ⊢
      rw [leLoad_cons, leLoad_cons, leLoad_cons, ih', UInt8.toNat_xor, mul_xor_two_pow 8]
      ac_rfl

theorem xorBytes_length (a b : Bytes) (h : a.length = b.length) : (xorBytes a b).length = a.length := by
  simp [xorBytes, h]

theorem xorBytes_fixed32_length (c : Nat) {ef : Bytes} (hf : ef.length = 4) : (xorBytes (fixed32 c) ef).length = 4 := by
  rw [xorBytes_length _ _ (by rw [fixed32_length, hf]), fixed32_length]

theorem list4 {α : Type} (w : List α) (h : w.length = 4) : ∃ a b c d, w = [a, b, c, d] := by
  rcases w with _ | ⟨a, _ | ⟨b, _ | ⟨c, _ | ⟨d, _ | ⟨x, w⟩⟩⟩⟩⟩ <;> simp at h
  exact ⟨a, b, c, d, rfl⟩

theorem dec32_eq_leLoad (e : Bytes) (h : e.length = 4) : dec32 e = leLoad e := by
  obtain ⟨a, b, c, d, rfl⟩ := list4 e h
  simp only [dec32, leLoad]; omega

theorem dec32_xor_fixed (c : Nat) (hc : c < 2 ^ 32) (ef : Bytes) (hf : ef.length = 4) :
    dec32 (xorBytes (fixed32 c) ef) = c ^^^ dec32 ef := by
  have hl : (fixed32 c).length = ef.length := by rw [hf]; rfl
  rw [dec32_eq_leLoad _ (by rw [xorBytes_length _ _ hl]; rfl), leLoad_xor _ _ hl,
    ← dec32_eq_leLoad _ (fixed32_length c), ← dec32_eq_leLoad _ hf, dec32_fixed32' hc]

end CrcD

open CrcP CrcD

theorem C12_intact (m : Bytes) : blockVerifies m (fixed32 (crc32c m)) = true := by
  unfold blockVerifies
  rw [dec32_fixed32' (crc32c_lt m)]
  exact beq_self_eq_true _

theorem blockVerifies_eq_false {payload field : Bytes} :
    blockVerifies payload field = false ↔ dec32 field ≠ crc32c payload := beq_eq_false_iff_ne

theorem crcRaw_xor2 (s t : Nat) (m e : Bytes) (h : e.length = m.length) :
    crcRaw (s ^^^ t) (xorBytes m e) = crcRaw s m ^^^ crcRaw t e := by
  induction m generalizing s t e with
  | nil => cases e <;> simp [xorBytes, crcRaw] at *
  | cons x xs ih =>
    cases e with
    | nil => simp at h
    | cons y ys =>
      have h' : ys.length = xs.length := by simpa using h
      have ih' := ih (crcByte s x) (crcByte t y) ys h'
      simp only [xorBytes, crcRaw, List.zipWith_cons_cons, List.foldl_cons] at ih' ⊢
      rw [← ih']
      congr 1
      unfold crcByte
      rw [← crcZ8_xor, UInt8.toNat_xor]
      congr 1
      ac_rfl

theorem crcRaw_xorBytes (s : Nat) (m e : Bytes) (h : e.length = m.length) :
    crcRaw s (xorBytes m e) = crcRaw s m ^^^ crcRaw 0 e := by
  have := crcRaw_xor2 s 0 m e h
  rwa [Nat.xor_zero] at this

theorem crc32c_xorBytes (m e : Bytes) (h : e.length = m.length) :
    crc32c (xorBytes m e) = crc32c m ^^^ crcRaw 0 e := by
  unfold crc32c
  rw [crcRaw_xorBytes _ _ _ h]
  ac_rfl

theorem blockVerifies_damaged (m ep ef : Bytes) (hl : ep.length = m.length) (hf : ef.length = 4) :
    blockVerifies (xorBytes m ep) (xorBytes (fixed32 (crc32c m)) ef) = true ↔ crcRaw 0 ep = dec32 ef := by
  unfold blockVerifies
  rw [dec32_xor_fixed _ (crc32c_lt m) _ hf, crc32c_xorBytes _ _ hl, beq_iff_eq, xor_left_cancel_iff]
  exact eq_comm

namespace CrcD

/-- number of set bits -/
def pc (x : Nat) : Nat := if x = 0 then 0 else x % 2 + pc (x / 2)
decreasing_by omega

theorem pc_zero : pc 0 = 0 := by rw [pc]; simp

theorem pc_eq (x : Nat) : pc x = x % 2 + pc (x / 2) := by
  by_cases h : x = 0
  · subst h; simp [pc_zero]
  · rw [pc]; simp [h]

theorem pc_crcP : pc crcP = 17 := by
  unfold crcP
  simp [pc]

theorem pc_eq_zero {x : Nat} (h : pc x = 0) : x = 0 := by
  induction x using Nat.strongRecOn with
  | _ x ih =>
    rw [pc_eq] at h
    by_cases hx : x = 0
    · exact hx
    · have := ih (x / 2) (by omega) (by omega)
      omega

theorem xor_mod_two (a b : Nat) : (a ^^^ b) % 2 = (a % 2 + b % 2) % 2 := by
  rw [show (a ^^^ b) % 2 = a % 2 ^^^ b % 2 from Nat.xor_mod_two_pow (n := 1)]
  rcases Nat.mod_two_eq_zero_or_one a with h | h <;> rcases Nat.mod_two_eq_zero_or_one b with h' | h' <;> rw [h, h'] <;> rfl

theorem xor_div_two (a b : Nat) : (a ^^^ b) / 2 = a / 2 ^^^ b / 2 := by
  have := @Nat.shiftRight_xor_distrib 1 a b
  simpa only [Nat.shiftRight_eq_div_pow, Nat.pow_one] using this

theorem pc_xor (a b : Nat) : pc (a ^^^ b) % 2 = (pc a + pc b) % 2 := by
  induction a using Nat.strongRecOn generalizing b with
  | _ a ih =>
    by_cases ha : a = 0
    · rw [ha, Nat.zero_xor, pc_zero, Nat.zero_add]
    · have := ih (a / 2) (by omega) (b / 2)
      rw [pc_eq (a ^^^ b), pc_eq a, pc_eq b, xor_div_two, xor_mod_two]
      omega

theorem pc_crcZ (x : Nat) : pc (crcZ x) % 2 = pc x % 2 := by
  unfold crcZ
  rw [pc_xor, pc_eq x, Nat.shiftRight_eq_div_pow]
  rcases Nat.mod_two_eq_zero_or_one x with h | h <;> simp [h, pc_crcP, pc_zero] <;> omega


theorem crcRaw_eq_iter (s : Nat) (d : Bytes) :
    crcRaw s d = iter crcZ (8 * d.length) (s ^^^ leLoad d) := by
  unfold crcRaw
  rw [foldl_crcByte_eq, crcZ8_eq, iter_iter]

theorem eq_of_xor_eq_zero {a b : Nat} (h : a ^^^ b = 0) : a = b := by
  have : a ^^^ b = a ^^^ a := by rw [h, Nat.xor_self]
  exact ((xor_left_cancel_iff a b a).mp this).symm

/-- the zero-input shift has trivial kernel on 32-bit registers (bit 31 of the polynomial is set) -/
theorem crcZ_eq_zero {x : Nat} (hx : x < 2 ^ 32) (h : crcZ x = 0) : x = 0 := by
  unfold crcZ at h
  rw [Nat.shiftRight_eq_div_pow] at h
  rcases Nat.mod_two_eq_zero_or_one x with h2 | h2
  · simp [h2] at h; omega
  · simp only [h2, ↓reduceIte] at h
    have h3 : x / 2 ^ 1 = crcP := eq_of_xor_eq_zero h
    unfold crcP at h3
    omega

theorem crcZ_inj {a b : Nat} (ha : a < 2 ^ 32) (hb : b < 2 ^ 32) (h : crcZ a = crcZ b) : a = b := by
  have h0 : crcZ (a ^^^ b) = 0 := by rw [crcZ_xor, h, Nat.xor_self]
  have := crcZ_eq_zero (Nat.xor_lt_two_pow ha hb) h0
  exact eq_of_xor_eq_zero this

theorem iter_crcZ_eq_zero (k : Nat) {x : Nat} (hx : x < 2 ^ 32) (h : iter crcZ k x = 0) : x = 0 := by
  induction k generalizing x with
  | zero => exact h
  | succ k ih => exact crcZ_eq_zero hx (ih (crcZ_lt hx) h)

theorem iter_crcZ_inj (k : Nat) {a b : Nat} (ha : a < 2 ^ 32) (hb : b < 2 ^ 32) (h : iter crcZ k a = iter crcZ k b) : a = b := by
  have h0 : iter crcZ k (a ^^^ b) = 0 := by rw [iter_crcZ_xor, h, Nat.xor_self]
  exact eq_of_xor_eq_zero (iter_crcZ_eq_zero k (Nat.xor_lt_two_pow ha hb) h0)

theorem pc_iter_crcZ (k x : Nat) : pc (iter crcZ k x) % 2 = pc x % 2 := by
  induction k generalizing x with
  | zero => rfl
  | succ k ih => rw [iter, ih, pc_crcZ]

theorem pc_add_pow (k : Nat) {a : Nat} (h : a < 2 ^ k) (L : Nat) : pc (a + 2 ^ k * L) = pc a + pc L := by
  induction k generalizing a with
  | zero =>
    have : a = 0 := by simpa using h
    subst this; simp [pc_zero]
  | succ k ih =>
    have e0 : 2 ^ (k + 1) * L = 2 * (2 ^ k * L) := by rw [Nat.pow_succ]; ac_rfl
    rw [pc_eq (a + 2 ^ (k + 1) * L), pc_eq a, e0]
    have e1 : (a + 2 * (2 ^ k * L)) % 2 = a % 2 := by omega
    have e2 : (a + 2 * (2 ^ k * L)) / 2 = a / 2 + 2 ^ k * L := by omega
    rw [e1, e2, ih (by rw [Nat.pow_succ] at h; omega)]
    omega

theorem pc_lt_two {x : Nat} (h : x < 2) : pc x = x := by
  have h0 : x / 2 = 0 := by omega
  rw [pc_eq, h0, pc_zero]
  omega

theorem pc_mod_two_pow (n k : Nat) :
    pc (n % 2 ^ k) = (List.range k).foldl (fun acc i => acc + (n >>> i) % 2) 0 := by
  induction k with
  | zero => rw [Nat.pow_zero, Nat.mod_one, pc_zero]; rfl
  | succ k ih =>
    rw [Nat.mod_pow_succ, pc_add_pow k (Nat.mod_lt _ (Nat.two_pow_pos k)), ih, pc_lt_two (Nat.mod_lt _ (by decide)),
      List.range_succ, List.foldl_append, ← Nat.shiftRight_eq_div_pow]
    rfl

theorem pc_byte (b : UInt8) : pc b.toNat = popcount8 b := by
  have := pc_mod_two_pow b.toNat 8
  rwa [Nat.mod_eq_of_lt b.toNat_lt] at this

theorem pc_leLoad (e : Bytes) : pc (leLoad e) = weight e := by
  induction e with
  | nil => simp [leLoad, weight, pc_zero]
  | cons b bs ih =>
    have := pc_add_pow 8 b.toNat_lt (leLoad bs)
    simp only [Nat.reducePow] at this
    simp only [leLoad, weight, List.map_cons, List.sum_cons] at ih ⊢
    rw [this, ih, pc_byte]

theorem weight_append (a b : Bytes) : weight (a ++ b) = weight a + weight b := by
  simp [weight]

theorem leLoad_ne_zero {e : Bytes} (h : 0 < weight e) : leLoad e ≠ 0 := by
  intro h0
  rw [← pc_leLoad, h0, pc_zero] at h
  omega

theorem leLoad_append (a b : Bytes) : leLoad (a ++ b) = leLoad a + 2 ^ (8 * a.length) * leLoad b := by
  induction a with
  | nil => simp [leLoad]
  | cons x xs ih =>
    have : 2 ^ (8 * (x :: xs).length) = 256 * 2 ^ (8 * xs.length) := by
      rw [List.length_cons, Nat.mul_succ, Nat.pow_add]; omega
    simp only [List.cons_append, leLoad, ih, this]
    rw [Nat.mul_add, Nat.mul_assoc, Nat.add_assoc]

theorem syndrome_zero (ep ef : Bytes) (hf : ef.length = 4) (h : crcRaw 0 ep = dec32 ef) :
    iter crcZ (8 * ep.length + 32) (leLoad (ep ++ ef)) = 0 := by
  rw [crcRaw_eq_iter, Nat.zero_xor, dec32_eq_leLoad _ hf] at h
  rw [leLoad_append, add_eq_xor_low (leLoad_lt ep), iter_add, iter_crcZ_xor, iter_crcZ_pow_mul, h, Nat.xor_self, iter_zero crcZ_xor]

theorem leLoad_append_lt {m ep ef : Bytes} (hl : ep.length = m.length) (hf : ef.length = 4) :
    leLoad (ep ++ ef) < 2 ^ (8 * m.length + 32) := by
  have := leLoad_lt (ep ++ ef)
  rwa [List.length_append, hf, hl, Nat.mul_add] at this

end CrcD

theorem detect_of_syndrome (m ep ef : Bytes) (hl : ep.length = m.length) (hf : ef.length = 4)
    (hne : iter crcZ (8 * m.length + 32) (leLoad (ep ++ ef)) ≠ 0) :
    blockVerifies (xorBytes m ep) (xorBytes (fixed32 (crc32c m)) ef) = false := by
  apply Bool.eq_false_iff.mpr
  intro h
  have hz := syndrome_zero ep ef hf ((blockVerifies_damaged m ep ef hl hf).mp h)
  rw [hl] at hz
  exact hne hz

theorem C12_detect_field (m ef : Bytes) (hf : ef.length = 4) (hne : 0 < weight ef) :
    blockVerifies m (xorBytes (fixed32 (crc32c m)) ef) = false := by
  rw [blockVerifies_eq_false, dec32_xor_fixed _ (crc32c_lt m) _ hf, dec32_eq_leLoad _ hf]
  exact fun h => leLoad_ne_zero hne ((xor_eq_left_iff _ _).mp h)

theorem C12_detect_odd (m ep ef : Bytes) (hl : ep.length = m.length) (hf : ef.length = 4)
    (hodd : (weight ep + weight ef) % 2 = 1) :
    blockVerifies (xorBytes m ep) (xorBytes (fixed32 (crc32c m)) ef) = false := by
  apply detect_of_syndrome m ep ef hl hf
  intro hz
  have hp := pc_iter_crcZ (8 * m.length + 32) (leLoad (ep ++ ef))
  rw [hz, pc_zero, pc_leLoad, weight_append] at hp
  omega

namespace CrcD

theorem bitAt_eq_testBit (e : Bytes) (i : Nat) : bitAt e i = (leLoad e).testBit i := by
  induction e generalizing i with
  | nil => simp [bitAt, leLoad]
  | cons b bs ih =>
    have hb := b.toNat_lt
    have h := Nat.testBit_two_pow_mul_add (leLoad bs) (i := 8) hb i
    simp only [Nat.reducePow] at h
    simp only [leLoad]
    rw [Nat.add_comm, h]
    by_cases hi : i < 8
    · have h1 : i / 8 = 0 := by omega
      have h2 : i % 8 = i := by omega
      simp only [hi, ↓reduceIte, bitAt, h1, h2, List.getD_cons_zero,
        Nat.testBit_eq_decide_div_mod_eq, Nat.shiftRight_eq_div_pow]
      rfl
    · have h1 : i / 8 = (i - 8) / 8 + 1 := by omega
      have h2 : i % 8 = (i - 8) % 8 := by omega
      simp only [hi, ↓reduceIte, ← ih]
      simp only [bitAt, h1, h2, List.getD_cons_succ]

theorem burst_nonzero {N K lo : Nat} (hN : N < 2 ^ K) (h0 : N ≠ 0)
    (hb : ∀ i, N.testBit i = true → lo ≤ i ∧ i < lo + 32) : iter crcZ K N ≠ 0 := by
  have hM : N >>> lo < 2 ^ 32 := by
    apply Nat.lt_pow_two_of_testBit
    intro i hi
    rw [Nat.testBit_shiftRight]
    cases hc : N.testBit (lo + i) with
    | false => rfl
    | true => have := hb _ hc; omega
  have hmod : N % 2 ^ lo = 0 := by
    apply Nat.eq_of_testBit_eq
    intro i
    rw [Nat.testBit_mod_two_pow, Nat.zero_testBit]
    cases hc : N.testBit i with
    | false => simp
    | true => have := hb _ hc; simp; omega
  have hdec : N = 2 ^ lo * (N >>> lo) := by
    rw [Nat.shiftRight_eq_div_pow]
    have := Nat.div_add_mod N (2 ^ lo)
    omega
  have hM0 : N >>> lo ≠ 0 := by
    intro hz; rw [hz] at hdec; simp at hdec; exact h0 hdec
  obtain ⟨i, hi⟩ := Nat.exists_testBit_of_ne_zero h0
  have hiK : i < K := by
    apply Classical.byContradiction
    intro hge
    have : N < 2 ^ i := Nat.lt_of_lt_of_le hN (Nat.pow_le_pow_right (by decide) (by omega))
    rw [Nat.testBit_lt_two_pow this] at hi
    exact Bool.noConfusion hi
  have hlo := (hb _ hi).1
  have hK : K = lo + (K - lo) := by omega
  rw [hK, iter_add, hdec, iter_crcZ_pow_mul]
  intro hz
  exact hM0 (iter_crcZ_eq_zero _ hM hz)

end CrcD

/-- bits beyond the end of the string are not set: a window need only be checked on the string itself -/
theorem burstWithin_of_bits {e : Bytes} {lo w : Nat}
    (h : ∀ j, j < 8 * e.length → bitAt e j = true → lo ≤ j ∧ j < lo + w) : burstWithin e w := by
  refine ⟨lo, fun i hi => ?_⟩
  rcases Nat.lt_or_ge i (8 * e.length) with hlt | hge
  · exact h i hlt hi
  · unfold bitAt at hi
    rw [List.getD_eq_getElem?_getD, List.getElem?_eq_none (by omega)] at hi
    simp at hi

theorem C12_detect_burst (m ep : Bytes) (hl : ep.length = m.length) (hne : 0 < weight ep)
    (hb : burstWithin ep 32) : blockVerifies (xorBytes m ep) (fixed32 (crc32c m)) = false := by
  rw [blockVerifies_eq_false, dec32_fixed32' (crc32c_lt m), crc32c_xorBytes _ _ hl]
  intro h
  have h2 := (xor_eq_left_iff _ _).mp h.symm
  rw [crcRaw_eq_iter, Nat.zero_xor] at h2
  obtain ⟨lo, hlo⟩ := hb
  exact burst_nonzero (leLoad_lt ep) (leLoad_ne_zero hne)
    (fun i hi => hlo i (by rw [bitAt_eq_testBit]; exact hi)) h2

/-- every burst of up to 32 bits anywhere in stored bytes + checksum field (also one that straddles the
    boundary between them) is detected, at any length -/
theorem C12_detect_burst_any (m ep ef : Bytes) (hl : ep.length = m.length) (hf : ef.length = 4)
    (hne : 0 < weight ep + weight ef) (hb : burstWithin (ep ++ ef) 32) :
    blockVerifies (xorBytes m ep) (xorBytes (fixed32 (crc32c m)) ef) = false := by
  obtain ⟨lo, hlo⟩ := hb
  exact detect_of_syndrome m ep ef hl hf
    (burst_nonzero (leLoad_append_lt hl hf) (leLoad_ne_zero (by rw [weight_append]; exact hne))
      (fun i hi => hlo i (by rw [bitAt_eq_testBit]; exact hi)))

theorem C12_detect_bytes4 (m ep : Bytes) (hl : ep.length = m.length) (hne : 0 < weight ep) (k : Nat)
    (h4 : ∀ j, (j < k ∨ k + 4 ≤ j) → ep.getD j 0 = 0) :
    blockVerifies (xorBytes m ep) (fixed32 (crc32c m)) = false := by
  apply C12_detect_burst m ep hl hne
  refine ⟨8 * k, fun i hi => ?_⟩
  apply Classical.byContradiction
  intro hc
  have hz := h4 (i / 8) (by omega)
  unfold bitAt at hi
  rw [hz] at hi
  simp at hi

namespace CrcD

/-! ### 2^31 - 1 is prime (trial division by 2, 3 and the numbers 6j ± 1) -/

/-- none of `d, d+2, d+6, d+8, …` (`f` pairs, six apart) divides `n` -/
def noDivisor6 (n : Nat) : Nat → Nat → Bool
  | 0, _ => true
  | f+1, d => Nat.blt 0 (n % d) && (Nat.blt 0 (n % (d + 2)) && noDivisor6 n f (d + 6))

theorem noDivisor6_spec (n : Nat) : ∀ f d, noDivisor6 n f d = true →
    ∀ j, j < f → 0 < n % (d + 6 * j) ∧ 0 < n % (d + 6 * j + 2)
  | 0, _, _, j, h => by omega
  | f+1, d, hk, j, _ => by
    simp only [noDivisor6, Bool.and_eq_true, Nat.blt_eq] at hk
    cases j with
    | zero => exact ⟨hk.1, hk.2.1⟩
    | succ j =>
      have := noDivisor6_spec n f (d + 6) hk.2.2 j (by omega)
      rwa [show d + 6 + 6 * j = d + 6 * (j + 1) by omega] at this

theorem mod6_cases {x : Nat} (h2 : ¬ 2 ∣ x) (h3 : ¬ 3 ∣ x) (h1 : x ≠ 1) :
    ∃ j, x = 5 + 6 * j ∨ x = 5 + 6 * j + 2 := by
  rcases (by omega : x % 6 = 5 ∨ x % 6 = 1) with h | h
  · exact ⟨x / 6, Or.inl (by omega)⟩
  · exact ⟨x / 6 - 1, Or.inr (by omega)⟩

theorem noDivisor6_small {n f x : Nat} (hn : noDivisor6 n f 5 = true) (h2 : ¬ 2 ∣ n) (h3 : ¬ 3 ∣ n)
    (hx : x ∣ n) (hlt : x < 5 + 6 * f) : x = 1 := by
  apply Classical.byContradiction
  intro h1
  obtain ⟨j, h⟩ := mod6_cases (fun h => h2 (Nat.dvd_trans h hx)) (fun h => h3 (Nat.dvd_trans h hx)) h1
  have hj := noDivisor6_spec n f 5 hn j (by omega)
  have hmod := Nat.mod_eq_zero_of_dvd hx
  rcases h with h | h
  · rw [← h, hmod] at hj; exact Nat.lt_irrefl 0 hj.1
  · rw [← h, hmod] at hj; exact Nat.lt_irrefl 0 hj.2

/-- `5 + 6 · 7723 = 46343` is beyond `46341 > √(2^31 - 1)` -/
theorem m31_nodiv : noDivisor6 2147483647 7723 5 = true := by decide +kernel

/-- of two factors of `2^31 - 1` one is below `46341 > √(2^31 - 1)` -/
theorem m31_prime {d : Nat} (h : d ∣ 2147483647) : d = 1 ∨ d = 2147483647 := by
  obtain ⟨c, hc⟩ := h
  have small : ∀ x, x ∣ 2147483647 → x < 46341 → x = 1 :=
    fun x hx hlt => noDivisor6_small m31_nodiv (by decide) (by decide) hx (Nat.lt_trans hlt (by decide))
  by_cases hd : d < 46341
  · exact Or.inl (small d ⟨c, hc⟩ hd)
  · by_cases hc' : c < 46341
    · have := small c ⟨d, by rw [Nat.mul_comm]; exact hc⟩ hc'
      subst this
      right; omega
    · have := Nat.mul_le_mul (Nat.le_of_not_lt hd) (Nat.le_of_not_lt hc')
      omega

/-! ### `x^(2^31) = x` by 31 squarings in GF(2)[x] modulo the CRC polynomial

  A register value `w < 2^32` stands for the polynomial `Σ_j bit_j(w) x^(31-j)`: `2^31` is `1`, and `crcZ` is
  multiplication by `x` (`crcZ^[i] 2^31 = 2^(31-i)` for `i ≤ 31`).  `mulZ v w 32` is the product of `v` and `w`. -/

/-- `p(crcZ) v` for `p = Σ_{j<n} bit_j(w) X^(n-1-j)`, by Horner's rule -/
def mulZ (v w : Nat) : Nat → Nat
  | 0 => 0
  | n+1 => crcZ (mulZ v w n) ^^^ v * (w / 2 ^ n % 2)

theorem iter_crcZ_mulZ (a v w n : Nat) : iter crcZ a (mulZ v w n) = mulZ (iter crcZ a v) w n := by
  induction n with
  | zero => exact iter_zero crcZ_xor a
  | succ n ih =>
    show iter crcZ a (crcZ (mulZ v w n) ^^^ v * (w / 2 ^ n % 2)) = crcZ (mulZ (iter crcZ a v) w n) ^^^ _
    rw [iter_crcZ_xor, ← ih, ← iter_succ' crcZ]
    congr 1
    rcases Nat.mod_two_eq_zero_or_one (w / 2 ^ n) with h | h
    · rw [h, Nat.mul_zero, Nat.mul_zero, iter_zero crcZ_xor]
    · rw [h, Nat.mul_one, Nat.mul_one]

/-- multiplying `1` by `w`: after `n` Horner steps the low `n` bits of `w` stand at the top of the register -/
theorem mulZ_one (w : Nat) : ∀ n m, n + m = 32 → mulZ (2 ^ 31) w n = 2 ^ m * (w % 2 ^ n)
  | 0, m, _ => by rw [Nat.pow_zero, Nat.mod_one, Nat.mul_zero]; rfl
  | n+1, m, h => by
    have hlt : 2 ^ m * (w % 2 ^ n) < 2 ^ 31 := by
      have : 2 ^ 31 = 2 ^ m * 2 ^ n := by rw [← Nat.pow_add]; congr 1; omega
      rw [this]
      exact Nat.mul_lt_mul_of_pos_left (Nat.mod_lt _ (Nat.two_pow_pos n)) (Nat.two_pow_pos m)
    have hp : 2 ^ m * 2 ^ n = 2 ^ 31 := by rw [← Nat.pow_add]; congr 1; omega
    show crcZ (mulZ (2 ^ 31) w n) ^^^ 2 ^ 31 * (w / 2 ^ n % 2) = _
    rw [mulZ_one w n (m + 1) (by omega), Nat.pow_succ, Nat.mul_comm (2 ^ m) 2, Nat.mul_assoc, crcZ_double,
      ← add_eq_xor_low hlt, Nat.mod_pow_succ, Nat.mul_add, ← Nat.mul_assoc, hp]

theorem mulZ_self (a : Nat) :
    mulZ (iter crcZ a (2 ^ 31)) (iter crcZ a (2 ^ 31)) 32 = iter crcZ (a + a) (2 ^ 31) := by
  have hlt : iter crcZ a (2 ^ 31) < 2 ^ 32 := iter_crcZ_lt a (by decide)
  rw [← iter_crcZ_mulZ, mulZ_one _ 32 0 rfl, Nat.mod_eq_of_lt hlt, Nat.pow_zero, Nat.one_mul, iter_add]

theorem iter_sq (k a : Nat) :
    iter (fun v => mulZ v v 32) k (iter crcZ a (2 ^ 31)) = iter crcZ (a * 2 ^ k) (2 ^ 31) := by
  induction k generalizing a with
  | zero => rw [Nat.pow_zero, Nat.mul_one]; rfl
  | succ k ih =>
    show iter _ k (mulZ (iter crcZ a (2 ^ 31)) (iter crcZ a (2 ^ 31)) 32) = _
    rw [mulZ_self, ih]
    congr 1
    rw [Nat.pow_succ, ← Nat.mul_two, Nat.mul_assoc, Nat.mul_comm 2]

theorem z_order_sq : iter (fun v => mulZ v v 32) 31 (2 ^ 30) = 2 ^ 30 := by decide +kernel

/-- `x^(2^31 - 1) = 1` modulo the CRC-32C polynomial -/
theorem iter_crcZ_m31 : iter crcZ 2147483647 1 = 1 := by
  have hx : iter crcZ 1 (2 ^ 31) = 2 ^ 30 := by decide
  have h := z_order_sq
  rw [← hx, iter_sq, Nat.one_mul, show (2 : Nat) ^ 31 = 2147483647 + 1 by decide, iter_succ'] at h
  have h1 : iter crcZ 2147483647 (2147483647 + 1) = 2147483647 + 1 :=
    crcZ_inj (iter_crcZ_lt _ (by decide)) (by decide) h
  have h31 : iter crcZ 31 (2147483647 + 1) = 1 := iter_crcZ_pow_mul 31 1
  rw [← h31, ← iter_add, Nat.add_comm, iter_add, h1]

/-! ### the order of `x` is exactly 2^31 - 1 -/

theorem per_mul {a : Nat} (ha : iter crcZ a 1 = 1) (q : Nat) : iter crcZ (a * q) 1 = 1 := by
  induction q with
  | zero => rfl
  | succ q ih => rw [Nat.mul_succ, iter_add, ih, ha]

theorem per_mod {a b : Nat} (ha : iter crcZ a 1 = 1) (hb : iter crcZ b 1 = 1) : iter crcZ (b % a) 1 = 1 := by
  have := Nat.div_add_mod b a
  rw [← this, iter_add, per_mul ha] at hb
  exact hb

theorem per_gcd (a b : Nat) : iter crcZ a 1 = 1 → iter crcZ b 1 = 1 → iter crcZ (Nat.gcd a b) 1 = 1 := by
  induction a, b using Nat.gcd.induction with
  | H0 n => intro _ h; rwa [Nat.gcd_zero_left]
  | H1 m n _ ih =>
    intro hm hn
    rw [Nat.gcd_rec]
    exact ih (per_mod hm hn) hm

theorem iter_crcZ_one_ne_one {d : Nat} (h0 : 0 < d) (hd : d < 2147483647) : iter crcZ d 1 ≠ 1 := by
  intro h
  have hg := per_gcd d 2147483647 h iter_crcZ_m31
  have h1 : Nat.gcd d 2147483647 ∣ d := Nat.gcd_dvd_left _ _
  have h2 : Nat.gcd d 2147483647 ∣ 2147483647 := Nat.gcd_dvd_right _ _
  have hle := Nat.le_of_dvd h0 h1
  rcases m31_prime h2 with h3 | h3
  · rw [h3] at hg
    revert hg
    decide
  · omega

theorem pc_one {x : Nat} (h : pc x = 1) : ∃ a, x = 2 ^ a := by
  induction x using Nat.strongRecOn with
  | _ x ih =>
    rw [pc_eq] at h
    rcases Nat.mod_two_eq_zero_or_one x with h2 | h2
    · have hx : x ≠ 0 := by intro h0; subst h0; simp [pc_zero] at h
      obtain ⟨a, ha⟩ := ih (x / 2) (by omega) (by omega)
      exact ⟨a + 1, by rw [Nat.pow_succ]; omega⟩
    · have := pc_eq_zero (x := x / 2) (by omega)
      exact ⟨0, by simp; omega⟩

theorem pc_two {x : Nat} (h : pc x = 2) : ∃ a b, a < b ∧ x = 2 ^ a + 2 ^ b := by
  induction x using Nat.strongRecOn with
  | _ x ih =>
    rw [pc_eq] at h
    rcases Nat.mod_two_eq_zero_or_one x with h2 | h2
    · have hx : x ≠ 0 := by intro h0; subst h0; simp [pc_zero] at h
      obtain ⟨a, b, hab, hx2⟩ := ih (x / 2) (by omega) (by omega)
      exact ⟨a + 1, b + 1, by omega, by rw [Nat.pow_succ, Nat.pow_succ]; omega⟩
    · obtain ⟨a, ha⟩ := pc_one (x := x / 2) (by omega)
      exact ⟨0, a + 1, by omega, by rw [Nat.pow_succ]; simp; omega⟩

theorem iter_crcZ_two_pow {K a : Nat} (h : a ≤ K) : iter crcZ K (2 ^ a) = iter crcZ (K - a) 1 := by
  have hK : K = a + (K - a) := by omega
  have := iter_crcZ_pow_mul a 1
  rw [Nat.mul_one] at this
  rw [hK, iter_add, this]
  congr 1
  omega

/-- two set bits closer than the order of `x` never cancel -/
theorem two_bits_nonzero {K a b : Nat} (hab : a < b) (hb : b < K) (hd : b - a < 2147483647) :
    iter crcZ K (2 ^ a + 2 ^ b) ≠ 0 := by
  have hx := add_eq_xor_low (a := 2 ^ a) (k := b) (Nat.pow_lt_pow_right (by decide) hab) 1
  rw [Nat.mul_one] at hx
  rw [hx, iter_crcZ_xor, iter_crcZ_two_pow (by omega : a ≤ K), iter_crcZ_two_pow (by omega : b ≤ K)]
  intro h
  have h1 := eq_of_xor_eq_zero h
  have hK : K - a = (b - a) + (K - b) := by omega
  rw [hK, iter_add] at h1
  have := iter_crcZ_inj _ (iter_crcZ_lt _ (by decide)) (by decide) h1
  exact iter_crcZ_one_ne_one (by omega) hd this

end CrcD

theorem C12_detect_two (m ep ef : Bytes) (hl : ep.length = m.length) (hf : ef.length = 4)
    (hw : weight ep + weight ef = 2) (hlen : 8 * m.length + 32 < 2^31 - 1) :
    blockVerifies (xorBytes m ep) (xorBytes (fixed32 (crc32c m)) ef) = false := by
  obtain ⟨a, b, hab, hx⟩ := pc_two (x := leLoad (ep ++ ef)) (by rw [pc_leLoad, weight_append, hw])
  have hlt := leLoad_append_lt (m := m) hl hf
  rw [hx] at hlt
  have hb : b < 8 * m.length + 32 := by
    apply (Nat.pow_lt_pow_iff_right (a := 2) (by decide)).mp
    have : 0 < 2 ^ a := Nat.pow_pos (by decide)
    omega
  apply detect_of_syndrome m ep ef hl hf
  rw [hx]
  exact two_bits_nonzero hab hb (by omega)

theorem C12_detect_weight (m ep ef : Bytes) (hl : ep.length = m.length) (hf : ef.length = 4)
    (hw : 0 < weight ep + weight ef) (hw3 : weight ep + weight ef ≤ 3)
    (hlen : 8 * m.length + 32 < 2^31 - 1) :
    blockVerifies (xorBytes m ep) (xorBytes (fixed32 (crc32c m)) ef) = false := by
  by_cases h2 : weight ep + weight ef = 2
  · exact C12_detect_two m ep ef hl hf h2 hlen
  · exact C12_detect_odd m ep ef hl hf (by omega)

/-! ### non-vacuity -/

example : blockVerifies (xorBytes [1, 2, 3, 4, 5] [0, 0, 0x10, 0, 0]) (fixed32 (crc32c [1, 2, 3, 4, 5])) = false := by
  decide +kernel

example : weight [0, 0, 0x10, 0, 0] = 1 := by decide

example : blockVerifies (xorBytes [1, 2, 3, 4, 5] [0, 0, 0, 0, 0x80])
    (xorBytes (fixed32 (crc32c [1, 2, 3, 4, 5])) [0x01, 0, 0, 0]) = false := by
  decide +kernel

example : weight [0, 0, 0, 0, 0x80] + weight [0x01, 0, 0, 0] = 2 := by decide

/-- a burst covering 4 bytes (not byte-aligned) -/
example : blockVerifies (xorBytes [1, 2, 3, 4, 5, 6] [0, 0xF0, 0xA5, 0x3C, 0x0F, 0])
    (fixed32 (crc32c [1, 2, 3, 4, 5, 6])) = false := by
  decide +kernel

/-- the undamaged block is accepted (so the `false`s above are not an artefact of the test) -/
example : blockVerifies [1, 2, 3, 4, 5] (fixed32 (crc32c [1, 2, 3, 4, 5])) = true := by decide +kernel

/-- the hypotheses of the general theorems are satisfiable: a burst and a two-bit instance -/
example : blockVerifies (xorBytes [1, 2, 3, 4, 5, 6] [0, 0xF0, 0xA5, 0x3C, 0x0F, 0])
    (fixed32 (crc32c [1, 2, 3, 4, 5, 6])) = false :=
  C12_detect_burst _ _ rfl (by decide) (burstWithin_of_bits (lo := 12) (by decide))

example : blockVerifies (xorBytes [1, 2, 3, 4, 5] [0, 0, 0, 0, 0x80])
    (xorBytes (fixed32 (crc32c [1, 2, 3, 4, 5])) [0x01, 0, 0, 0]) = false :=
  C12_detect_two _ _ _ rfl rfl (by decide) (by decide)

end Mtbl
