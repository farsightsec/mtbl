import MtblProofs.WriterProofs
import MtblProofs.FileEncProofs
/-
  Glue between the lemma library and the property theorems in MtblProps/: the blocks of the canonical file are the
  canonical blocks of the writer's entry groups (so that the rules of C09, proved on the groups, can be read on the
  `EBlock`s), and two counting facts that discharge the restart-count side conditions of `EFile.open_ok` for tables
  with fewer than 2^32 - 1 entries.
-/
namespace Mtbl.Glue

open WriterP

theorem canonBlock_items_length (I : Nat) (B : List Entry) : (canonBlock I B).items.length = B.length :=
  BlockEnc.canonItems_length I 0 [] B

/-- a block of the canonical file is the canonical block of the group of entries it holds, and that group is one of
    the writer's split -/
theorem mem_blocks (cfg : WCfg) (pre : Bytes) (es : List Entry) (b : EBlock)
    (hb : b ∈ (canonFile cfg pre es).blocks) :
    b.entries ∈ splitBlocks cfg [] es ∧ b = canonBlock cfg.interval b.entries := by
  rw [C09_blocks] at hb
  obtain ⟨B, hB, rfl⟩ := List.mem_map.mp hb
  rw [canonBlock_entries]
  exact ⟨hB, rfl⟩

theorem blocks_getElem? (cfg : WCfg) (pre : Bytes) (es : List Entry) (j : Nat) (b : EBlock)
    (hb : (canonFile cfg pre es).blocks[j]? = some b) :
    (splitBlocks cfg [] es)[j]? = some b.entries ∧ b = canonBlock cfg.interval b.entries := by
  rw [C09_blocks, List.getElem?_map] at hb
  cases hB : (splitBlocks cfg [] es)[j]? with
  | none => rw [hB] at hb; cases hb
  | some B =>
    rw [hB] at hb
    have : canonBlock cfg.interval B = b := Option.some.inj hb
    subst this
    rw [canonBlock_entries]
    exact ⟨rfl, rfl⟩

theorem blocks_entries (cfg : WCfg) (pre : Bytes) (es : List Entry) :
    (canonFile cfg pre es).blocks.map EBlock.entries = splitBlocks cfg [] es := by
  rw [C09_blocks, List.map_map]
  conv => rhs; rw [← List.map_id (splitBlocks cfg [] es)]
  apply List.map_congr_left
  intro B _
  exact canonBlock_entries cfg.interval B

theorem canonRestarts_length_le (I n : Nat) (hi : 1 ≤ I) : (canonRestarts I n).length ≤ max n 1 := by
  rw [BlockEnc.canonRestarts_eq_filter I n hi]
  exact Nat.le_trans (List.length_filter_le _ _) (Nat.le_of_eq List.length_range)

theorem length_le_flatten {α : Type} : ∀ (L : List (List α)), (∀ B ∈ L, B ≠ []) → L.length ≤ L.flatten.length := by
  intro L
  induction L with
  | nil => intro _; exact Nat.le_refl _
  | cons B L ih =>
    intro h
    have hB : 0 < B.length := List.length_pos_iff.mpr (h B (List.mem_cons_self ..))
    have := ih (fun B' hB' => h B' (List.mem_cons_of_mem _ hB'))
    simp only [List.length_cons, List.flatten_cons, List.length_append]
    omega

theorem splitBlocks_length_le (cfg : WCfg) (es : List Entry) : (splitBlocks cfg [] es).length ≤ es.length := by
  have := length_le_flatten (splitBlocks cfg [] es) (splitBlocks_ne_nil cfg es [])
  rw [splitBlocks_flatten] at this
  exact this

/-- with fewer than 2^32 - 1 entries, every data block's restart count fits its 32-bit field -/
theorem canonFile_restarts_small (cfg : WCfg) (pre : Bytes) (es : List Entry) (hi : 1 ≤ cfg.interval)
    (hn : es.length < 2^32 - 1) :
    ∀ b ∈ (canonFile cfg pre es).blocks, b.restarts.length < 2^32 - 1 := by
  intro b hb
  rw [C09_blocks] at hb
  obtain ⟨B, hB, rfl⟩ := List.mem_map.mp hb
  have h1 := canonRestarts_length_le cfg.interval B.length hi
  have h2 := (mem_split_sub cfg es hB).length_le
  show (canonRestarts cfg.interval B.length).length < 2^32 - 1
  omega

/-- … and so does the index block's -/
theorem canonFile_indexRestarts_small (cfg : WCfg) (pre : Bytes) (es : List Entry) (hi : 1 ≤ cfg.interval)
    (hn : es.length < 2^32 - 1) :
    (canonFile cfg pre es).indexRestarts.length < 2^32 - 1 := by
  have h1 := canonRestarts_length_le cfg.interval (splitBlocks cfg [] es).length hi
  have h2 := splitBlocks_length_le cfg es
  show (canonRestarts cfg.interval (splitBlocks cfg [] es).length).length < 2^32 - 1
  omega

theorem fmeta_fields_lt (f : EFile) (comp : Bytes → Bytes) (hsize : (f.encode comp).length < 2^64)
    (hbs : f.blockSizeField < 2^64) (hcompr : f.compression < 2^64)
    (hcnt : (f.blocks.flatMap (·.entries)).length < 2^64 ∧ f.blocks.length < 2^64 ∧
      ((f.blocks.flatMap (·.entries)).map (·.key.length)).sum < 2^64 ∧
      ((f.blocks.flatMap (·.entries)).map (·.val.length)).sum < 2^64) :
    ∀ x ∈ (FileEnc.fmeta f comp).fields, x < 2^64 := by
  have hlen := FileEnc.encode_length f comp
  unfold FileEnc.indexOff at hlen
  intro x hx
  simp only [Meta.fields, FileEnc.fmeta, List.mem_cons, List.not_mem_nil, or_false] at hx
  rcases hx with rfl | rfl | rfl | rfl | rfl | rfl | rfl | rfl | rfl <;> omega

theorem fmeta_eq_recount (f : EFile) (comp : Bytes → Bytes) (hv : f.version = .v2) :
    FileEnc.fmeta f comp = f.recount comp := by
  unfold FileEnc.fmeta EFile.recount FileEnc.idxFrame FileEnc.fdata EFile.entries
  simp only [hv, FVersion.toV]

/-- the metadata held by the reader that opened the encoding of a version-2 file: the recount, every field
    truncated to 64 bits -/
theorem openedRd_m (f : EFile) (comp : Bytes → Bytes) (decomp : Nat → Bytes → Option Bytes) (verify : Bool)
    (hv : f.version = .v2) :
    (FileEnc.openedRd f comp decomp verify).m = FileEnc.trunc (f.recount comp) := by
  show FileEnc.rmeta f comp = _
  unfold FileEnc.rmeta
  rw [fmeta_eq_recount f comp hv, hv]
  rfl

end Mtbl.Glue
