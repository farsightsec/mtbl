import MtblProofs.TpProofs
import MtblProofs.TpKRace
import MtblProofs.TpKShape
/-
  NO DATA RACE in the k-client pool machine (MtblModel/TpK.lean): for every number of clients sharing the pool, every pool
  size, job count, delivery mode and schedule, no reachable state has two different threads — the pool owner, any client's
  caller, any client's result handler, any worker — whose next steps touch a common location, at least one writing, with no
  mutex held by both.  Access labels: those of the one-client machine (`Tp.accesses`, tied to mtbl/threadpool.c by the
  regenerated site table), evaluated on the thread's view of the k-client state and relabelled with the client's own queue.
  Pairs that share no worker record are separated by their domains (`Dom.no_conflict`); caller and handler of one client,
  and a client or the owner against a worker, replay the one-client lemmas `Tp.racy_*_of` on the view.
  `accK s w`: what thread `w` touches next; `racyK`: some pair of accesses conflicts.
-/
namespace TpK

def toOPc : OPc → Tp.CPc
  | .destroy a => .destroy a
  | .kill t => .kill t
  | .joinW t => .joinW t
  | _ => .joinH
def ownerView (s : St) : Tp.St :=
  { max := s.max, njobs := s.njobs, ordered := s.ordered, thr := s.thr.map toThr, idle := s.idle, count := s.count,
    cpc := toOPc s.opc, hpc := .exited }
def ownerAccesses (s : St) : List KAccess := (Tp.accesses (ownerView s) .caller).map (kAcc 0)

def accK (s : St) : Who → List KAccess
  | .owner => ownerAccesses s
  | .client c => clientAccesses s c false
  | .handler c => clientAccesses s c true
  | .worker t => workerAccesses s t
def racyK (l1 l2 : List KAccess) : Bool := l1.any fun a => l2.any fun b => kConflict a b
def enabledK (s : St) (w : Who) : Bool := (step s (.run w 0)).isSome
/-- two different threads each have an enabled step, the steps touch a common location, at least one writes it, and no mutex
    is held by both -/
def raceBetweenK (s : St) (w1 w2 : Who) : Bool :=
  w1 != w2 && enabledK s w1 && enabledK s w2 && racyK (accK s w1) (accK s w2)

theorem kLoc_beq (c : Nat) (a b : Tp.Loc) : (kLoc c a == kLoc c b) = (a == b) := by
  rw [Bool.eq_iff_iff]; simp only [beq_iff_eq]
  cases a <;> cases b <;> simp [kLoc]
theorem kLock_beq (c : Nat) (a b : Tp.Lock) : (kLock c a == kLock c b) = (a == b) := by
  rw [Bool.eq_iff_iff]; simp only [beq_iff_eq]
  cases a <;> cases b <;> simp [kLock]

theorem contains_map_kLock (c : Nat) (ls : List Tp.Lock) (l : Tp.Lock) :
    (ls.map (kLock c)).contains (kLock c l) = ls.contains l := by
  induction ls with
  | nil => rfl
  | cons x xs ih =>
    simp only [List.map_cons, List.contains_cons, ih]
    have := kLock_beq c l x
    rw [this]

theorem kConflict_kAcc (c : Nat) (a b : Tp.Access) : kConflict (kAcc c a) (kAcc c b) = Tp.conflict a b := by
  unfold kConflict Tp.conflict kAcc
  simp only [kLoc_beq, List.any_map, Function.comp_def, contains_map_kLock]

theorem racyK_map (c : Nat) (l1 l2 : List Tp.Access) :
    racyK (l1.map (kAcc c)) (l2.map (kAcc c)) = Tp.racy l1 l2 := by
  simp only [racyK, Tp.racy, List.any_map, Function.comp_def, kConflict_kAcc]

theorem kConflict_symm (a b : KAccess) : kConflict a b = kConflict b a := by
  unfold kConflict
  have h1 : (a.loc == b.loc) = (b.loc == a.loc) := by
    rw [Bool.eq_iff_iff]; simp only [beq_iff_eq]; exact eq_comm
  have h2 : (a.locks.any fun l => b.locks.contains l) = (b.locks.any fun l => a.locks.contains l) := by
    rw [Bool.eq_iff_iff]
    simp only [List.any_eq_true, List.contains_iff_mem]
    constructor <;> rintro ⟨l, h1, h2⟩ <;> exact ⟨l, h2, h1⟩
  rw [h1, h2, Bool.or_comm]

theorem racyK_symm (l1 l2 : List KAccess) : racyK l1 l2 = racyK l2 l1 := by
  unfold racyK
  rw [Bool.eq_iff_iff]
  simp only [List.any_eq_true]
  constructor <;> rintro ⟨a, ha, b, hb, hc⟩ <;> exact ⟨b, hb, a, ha, by rwa [kConflict_symm]⟩

theorem racyK_false_iff (l1 l2 : List KAccess) :
    racyK l1 l2 = false ↔ ∀ a ∈ l1, ∀ b ∈ l2, kConflict a b = false := by
  unfold racyK
  constructor
  · intro h a ha b hb
    apply Classical.byContradiction; intro hn
    have : (l1.any fun a => l2.any fun b => kConflict a b) = true :=
      List.any_eq_true.mpr ⟨a, ha, List.any_eq_true.mpr ⟨b, hb, by simpa using hn⟩⟩
    rw [h] at this; cases this
  · intro h
    apply Classical.byContradiction; intro hn
    have hn' : (l1.any fun a => l2.any fun b => kConflict a b) = true := by simpa using hn
    obtain ⟨a, ha, h2⟩ := List.any_eq_true.mp hn'
    obtain ⟨b, hb, h3⟩ := List.any_eq_true.mp h2
    rw [h a ha b hb] at h3; cases h3

theorem racyK_of_dom {D E : Dom} {l1 l2 : List KAccess} (h1 : ∀ t, D.thr t = true → ¬ (E.thr t = true ∨ E.thrP t = true))
    (h2 : ∀ t, E.thr t = true → ¬ (D.thr t = true ∨ D.thrP t = true)) (d1 : ∀ a ∈ l1, D.has a = true)
    (d2 : ∀ b ∈ l2, E.has b = true) : racyK l1 l2 = false :=
  (racyK_false_iff l1 l2).mpr fun a ha b hb => Dom.no_conflict h1 h2 (d1 a ha) (d2 b hb)

/-- accesses that involve no result queue are labelled the same whichever client's queue the relabelling names -/
def noRq (a : Tp.Access) : Bool :=
  (match a.loc with | .rqHead | .rqNthreads | .rqFinished => false | _ => true) &&
  a.locks.all fun l => match l with | .rq => false | _ => true

theorem kAcc_noRq (c c' : Nat) (a : Tp.Access) (h : noRq a = true) : kAcc c a = kAcc c' a := by
  unfold noRq at h
  simp only [Bool.and_eq_true, List.all_eq_true] at h
  unfold kAcc
  congr 1
  · cases hl : a.loc <;> simp [hl] at h <;> rfl
  · apply List.map_congr_left
    intro l hl
    have := h.2 l hl
    cases l <;> simp at this <;> rfl

theorem map_kAcc_noRq (c c' : Nat) (l : List Tp.Access) (h : l.all noRq = true) : l.map (kAcc c) = l.map (kAcc c') := by
  apply List.map_congr_left
  intro a ha
  exact kAcc_noRq c c' a (List.all_eq_true.mp h a ha)


theorem isTop_toWPc (p : WPc) : Tp.isTop (toWPc p) = isTop p := by cases p <;> rfl

theorem SIdle.toTp {th : Thr} (h : SIdle th) : Tp.SIdle (toThr th) :=
  ⟨by show Tp.isTop (toWPc th.pc) = true; rw [isTop_toWPc]; exact h.1, h.2.1, h.2.2.1, h.2.2.2.1,
   by show th.rq.isSome = false; rw [h.2.2.2.2]; rfl⟩

theorem toWPc_gotJob {p : WPc} (h : p = .gotJob) : toWPc p = .gotJob := by rw [h]; rfl
theorem toWPc_doneOrd {p : WPc} (h : p = .doneOrd) : toWPc p = .doneOrd := by rw [h]; rfl

theorem SQ.toTp {o : Bool} {th : Thr} (h : SQ o th) : Tp.SQ' o (toThr th) := by
  unfold SQ at h; unfold Tp.SQ'
  split
  · rw [if_pos (by assumption)] at h
    refine ⟨by show th.rq.isSome = false; rw [h.1]; rfl, ?_⟩
    rcases h.2 with ⟨hp, a, b, c⟩ | ⟨hp, a, b, c⟩ | ⟨hp, a, b, c⟩
    · left
      refine ⟨?_, a, b, c⟩
      rcases hp with hp | hp
      · left; show Tp.isTop (toWPc th.pc) = true; rw [isTop_toWPc]; exact hp
      · right; exact toWPc_gotJob hp
    · right; left; exact ⟨toWPc_doneOrd hp, a, b, c⟩
    · right; right
      exact ⟨by show Tp.isTop (toWPc th.pc) = true; rw [isTop_toWPc]; exact hp, a, b, c⟩
  · rw [if_neg (by assumption)] at h
    exact ⟨by show Tp.isTop (toWPc th.pc) = true; rw [isTop_toWPc]; exact h.1, h.2.1, h.2.2.1, h.2.2.2.1,
      by show th.rq.isSome = false; rw [h.2.2.2.2]; rfl⟩

theorem view_thr (s : St) (c t : Nat) (ht : t < s.thr.size) : (view s c).thr[t]! = toThr s.thr[t]! := by
  show (s.thr.map toThr)[t]! = _
  rw [get_map, if_pos ht]
theorem ownerView_thr (s : St) (t : Nat) (ht : t < s.thr.size) : (ownerView s).thr[t]! = toThr s.thr[t]! := by
  show (s.thr.map toThr)[t]! = _
  rw [get_map, if_pos ht]

theorem accesses_worker_congr (s1 s2 : Tp.St) (t : Nat) (h : s1.thr = s2.thr) :
    Tp.accesses s1 (.worker t) = Tp.accesses s2 (.worker t) := by
  simp only [Tp.accesses, h]

theorem toCPc_cHand {pc : CPc} {o : Bool} {t : Nat} (h : Tp.cHand (toCPc pc) o = some t) : t ∈ cHand pc o := by
  cases pc <;> simp [toCPc, Tp.cHand] at h
  · subst h; simp
  · rename_i t'
    simp only [cHand_enqueue]
    obtain ⟨h1, h2⟩ := h
    subst h2; simp [h1]

theorem view_hHand {s : St} {c t : Nat} (h : Tp.hHand (view s c).hpc = some t) : t ∈ hHand s.cl[c]!.hpc := by
  have : (view s c).hpc = if s.cl[c]!.hstarted then toHPc s.cl[c]!.hpc else .exited := rfl
  rw [this] at h
  split at h
  · cases hp : s.cl[c]!.hpc <;> simp [hp, toHPc, Tp.hHand] at h <;> simp [h]
  · simp [Tp.hHand] at h

theorem view_ch_facts {s : St} (hE : Excl s) (c : Nat) :
    (∀ t rest t' rest', (view s c).idle = t :: rest → (view s c).queue = t' :: rest' → t ≠ t') ∧
    (∀ t rest, (view s c).queue = t :: rest → Tp.cHand (view s c).cpc (view s c).ordered ≠ some t) ∧
    (∀ t rest, (view s c).idle = t :: rest → Tp.hHand (view s c).hpc ≠ some t) ∧
    (∀ t, Tp.cHand (view s c).cpc (view s c).ordered = some t → Tp.hHand (view s c).hpc ≠ some t) ∧
    (Tp.inDestroy (view s c).cpc = true → (view s c).hpc = .exited) := by
  have hi : (view s c).idle = s.idle := rfl
  have hq : (view s c).queue = s.cl[c]!.queue := rfl
  have hc : (view s c).cpc = toCPc s.cl[c]!.pc := rfl
  have ho : (view s c).ordered = s.ordered := rfl
  rw [hi, hq, hc, ho]
  -- each of the first four: `t` would be in two of the client's places
  have two : ∀ {t : Nat} {a b : List Nat}, t ∈ a → t ∈ b →
      a.count t + b.count t ≤ s.idle.count t + (cHand s.cl[c]!.pc s.ordered).count t + s.cl[c]!.queue.count t +
        (hHand s.cl[c]!.hpc).count t → False := fun {t a b} m1 m2 hle => by
    have := hE.in_client c t
    have := List.count_pos_iff.mpr m1
    have := List.count_pos_iff.mpr m2
    omega
  refine ⟨fun t rest t' rest' h1 h2 e => ?_, fun t rest h1 h2 => ?_, fun t rest h1 h2 => ?_, fun t h1 h2 => ?_, fun h => ?_⟩
  · subst e
    exact two (t := t) (a := s.idle) (b := s.cl[c]!.queue) (by rw [h1]; simp) (by rw [h2]; simp) (by omega)
  · exact two (t := t) (a := s.cl[c]!.queue) (by rw [h1]; simp) (toCPc_cHand h2) (by omega)
  · exact two (t := t) (a := s.idle) (by rw [h1]; simp) (view_hHand h2) (by omega)
  · exact two (toCPc_cHand h1) (view_hHand h2) (by omega)
  · exfalso
    cases hp : s.cl[c]!.pc <;> simp [hp, toCPc, Tp.inDestroy] at h


/-! ### caller and handler of the same client -/
theorem norace_same_client {s : St} (hE : Excl s) (c : Nat) :
    racyK (clientAccesses s c false) (clientAccesses s c true) = false := by
  unfold clientAccesses
  simp only [Bool.false_eq_true, if_false, if_true]
  rw [racyK_map]
  obtain ⟨d1, d2, d3, d4, d5⟩ := view_ch_facts hE c
  exact Tp.racy_ch_of _ d1 d2 d3 d4 d5

/-! ### a client's caller or handler and a worker -/
theorem idle_head_toTp {s : St} (hE : Excl s) (hS : Sh s) {t' : Nat} {rest : List Nat} (h : s.idle = t' :: rest) :
    Tp.SIdle (s.thr.map toThr)[t']! := by
  have m : t' ∈ s.idle := by rw [h]; simp
  rw [get_map, if_pos (hE.idle_free m).2.2.2.2]
  exact ((hS t').idle m).toTp

theorem view_cw_facts {s : St} (hE : Excl s) (hS : Sh s) (c : Nat) :
    (∀ t' rest, (view s c).idle = t' :: rest → Tp.SIdle (view s c).thr[t']!) ∧
    (∀ t, (view s c).cpc = .assign t → Tp.SIdle (view s c).thr[t]!) ∧
    (∀ t, (view s c).cpc = .kill t → Tp.SIdle (view s c).thr[t]!) := by
  refine ⟨fun t' rest h1 => ?_, fun t h1 => ?_, fun t h1 => ?_⟩
  · exact idle_head_toTp hE hS h1
  · have hp : s.cl[c]!.pc = .assign t := by
      have : (view s c).cpc = toCPc s.cl[c]!.pc := rfl
      rw [this] at h1
      cases hp : s.cl[c]!.pc <;> simp [hp, toCPc] at h1
      rw [h1]
    have m := mem_view_assign (o := s.ordered) hp
    rw [view_thr s c t (hE.client_lt m)]
    exact (((hS t).cl c).assign hp).toTp
  · exfalso
    have : (view s c).cpc = toCPc s.cl[c]!.pc := rfl
    rw [this] at h1
    cases hp : s.cl[c]!.pc <;> simp [hp, toCPc] at h1

theorem view_hw_facts {s : St} (hE : Excl s) (hS : Sh s) (c : Nat) :
    (∀ t a, (view s c).hpc = .waitRes t a →
      Tp.SQ' (view s c).ordered (view s c).thr[t]! ∧ (a = true → (view s c).thr[t]!.running = true)) ∧
    (∀ t r, (view s c).hpc = .giveBack t r → Tp.SIdle (view s c).thr[t]!) := by
  have hv : (view s c).hpc = if s.cl[c]!.hstarted then toHPc s.cl[c]!.hpc else .exited := rfl
  refine ⟨fun t a h1 => ?_, fun t r h1 => ?_⟩
  · rw [hv] at h1
    split at h1
    · have hp : s.cl[c]!.hpc = .waitRes t a := by
        cases hp : s.cl[c]!.hpc <;> simp [hp, toHPc] at h1
        rw [h1.1, h1.2]
      have m := mem_view_wait (o := s.ordered) hp
      rw [view_thr s c t (hE.client_lt m)]
      have := ((hS t).cl c).wait a hp
      exact ⟨this.1.toTp, this.2⟩
    · cases h1
  · rw [hv] at h1
    split at h1
    · have hp : s.cl[c]!.hpc = .giveBack t r := by
        cases hp : s.cl[c]!.hpc <;> simp [hp, toHPc] at h1
        rw [h1.1, h1.2]
      have m := mem_view_give (o := s.ordered) hp
      rw [view_thr s c t (hE.client_lt m)]
      exact (((hS t).cl c).give r hp).toTp
    · cases h1

theorem worker_noRq (S : Tp.St) (t : Nat) (h : ∀ th, S.thr[t]? = some th → th.pc ≠ .selfEnq) :
    (Tp.accesses S (.worker t)).all noRq = true := by
  cases hth : S.thr[t]? with
  | none => simp [Tp.accesses, hth]
  | some th =>
    have hne := h th hth
    cases hp : th.pc with
    | top a => cases a <;> simp [Tp.accesses, hth, hp, Tp.acc, noRq]
    | gotJob => cases hr : th.rq <;> simp [Tp.accesses, hth, hp, hr, Tp.acc, noRq]
    | selfEnq => exact absurd hp hne
    | doneOrd => simp [Tp.accesses, hth, hp, Tp.acc, noRq]
    | exited => simp [Tp.accesses, hth, hp]

theorem view_thr_get? (s : St) (c t : Nat) (th : Tp.Thr) (h : (view s c).thr[t]? = some th) :
    ∃ th0, s.thr[t]? = some th0 ∧ th = toThr th0 := by
  have : (view s c).thr = s.thr.map toThr := rfl
  rw [this] at h
  simp only [Array.getElem?_map, Option.map_eq_some_iff] at h
  obtain ⟨a, h1, h2⟩ := h
  exact ⟨a, h1, h2.symm⟩

theorem workerAccesses_eq {s : St} (c t : Nat) (h : ∀ c', s.thr[t]!.pc = .selfEnq c' → c' = c) :
    workerAccesses s t = (Tp.accesses (view s c) (.worker t)).map (kAcc c) := by
  unfold workerAccesses
  rw [accesses_worker_congr (view s (enqClient s t)) (view s c) t rfl]
  by_cases hp : ∃ c', s.thr[t]!.pc = .selfEnq c'
  · obtain ⟨c', hp⟩ := hp
    have e : enqClient s t = c := by
      have hc := h c' hp
      unfold enqClient
      cases hth : s.thr[t]? with
      | none =>
        have : s.thr[t]! = default := by simp [getElem!_def, hth]
        rw [this] at hp; cases hp
      | some th =>
        have : s.thr[t]! = th := by simp [getElem!_def, hth]
        rw [this] at hp
        simp [hp, hc]
    rw [e]
  · apply map_kAcc_noRq
    apply worker_noRq
    intro th hth e
    obtain ⟨th0, h1, h2⟩ := view_thr_get? s c t th hth
    apply hp
    have : s.thr[t]! = th0 := by simp [getElem!_def, h1]
    rw [this]
    rw [h2] at e
    have e' : toWPc th0.pc = .selfEnq := e
    cases hq : th0.pc <;> simp [hq, toWPc] at e'
    exact ⟨_, rfl⟩

theorem norace_client_worker {s : St} (hE : Excl s) (hS : Sh s) (c t : Nat) (r : Bool) :
    racyK (clientAccesses s c r) (workerAccesses s t) = false := by
  by_cases hsame : ∀ c', s.thr[t]!.pc = .selfEnq c' → c' = c
  · rw [workerAccesses_eq c t hsame]
    unfold clientAccesses
    rw [racyK_map]
    cases r
    · simp only [Bool.false_eq_true, if_false]
      obtain ⟨e1, e2, e3⟩ := view_cw_facts hE hS c
      exact Tp.racy_cw_of _ t e1 e2 e3
    · simp only [if_true]
      obtain ⟨e1, e2⟩ := view_hw_facts hE hS c
      exact Tp.racy_hw_of _ t e1 e2
  · -- the worker is about to enter ANOTHER client's queue: it holds itself, so client c does not touch its record
    have ⟨c', hp, _⟩ : ∃ c', s.thr[t]!.pc = .selfEnq c' ∧ c' ≠ c := by
      apply Classical.byContradiction; intro hn
      apply hsame; intro c' hp
      apply Classical.byContradiction; intro hne
      exact hn ⟨c', hp, hne⟩
    obtain ⟨f1, _, f3⟩ := hE.self (t := t) (by simp [wN, hp])
    rw [racyK_symm, racyK_false_iff]
    exact worker_client_no_conflict (f3 c) f1 r

/-! ### the owner -/
theorem owner_noRq (s : St) : (Tp.accesses (ownerView s) .caller).all noRq = true := by
  have hc : (ownerView s).cpc = toOPc s.opc := rfl
  have hi : (ownerView s).idle = s.idle := rfl
  cases ho : s.opc with
  | destroy a =>
    cases a
    · cases hid : s.idle <;> simp [Tp.accesses, hc, hi, ho, hid, toOPc, Tp.acc, noRq]
    · simp [Tp.accesses, hc, ho, toOPc]
  | kill t => simp [Tp.accesses, hc, ho, toOPc, Tp.acc, noRq]
  | joinW t => simp [Tp.accesses, hc, ho, toOPc, Tp.acc, noRq]
  | _ => simp [Tp.accesses, hc, ho, toOPc]

theorem ownerView_cw_facts {s : St} (hE : Excl s) (hS : Sh s) :
    (∀ t' rest, (ownerView s).idle = t' :: rest → Tp.SIdle (ownerView s).thr[t']!) ∧
    (∀ t, (ownerView s).cpc = .assign t → Tp.SIdle (ownerView s).thr[t]!) ∧
    (∀ t, (ownerView s).cpc = .kill t → Tp.SIdle (ownerView s).thr[t]!) := by
  have hc : (ownerView s).cpc = toOPc s.opc := rfl
  refine ⟨fun t' rest h1 => ?_, fun t h1 => ?_, fun t h1 => ?_⟩
  · exact idle_head_toTp hE hS h1
  · exfalso
    rw [hc] at h1
    cases ho : s.opc <;> simp [ho, toOPc] at h1
  · have ho : s.opc = .kill t := by
      rw [hc] at h1
      cases ho : s.opc <;> simp [ho, toOPc] at h1
      rw [h1]
    rw [ownerView_thr s t (hE.owner (by simp [ho])).2.2.2]
    exact ((hS t).kill ho).toTp

theorem norace_owner_worker {s : St} (hE : Excl s) (hS : Sh s) (t : Nat) :
    racyK (ownerAccesses s) (workerAccesses s t) = false := by
  unfold ownerAccesses workerAccesses
  rw [map_kAcc_noRq 0 (enqClient s t) _ (owner_noRq s),
    accesses_worker_congr (view s (enqClient s t)) (ownerView s) t rfl, racyK_map]
  obtain ⟨e1, e2, e3⟩ := ownerView_cw_facts hE hS
  exact Tp.racy_cw_of _ t e1 e2 e3

/-- under pool->m: the pool's fields, the records of the idle threads and of the thread taken from the idle list -/
def ownerDom (s : St) : Dom :=
  { thr := fun _ => false, thrP := fun t => s.idle.contains t || (oHand s.opc).contains t, rq := fun _ => false, pool := true }

theorem owner_inDomain (s : St) : (ownerAccesses s).all (ownerDom s).has = true := by
  unfold ownerAccesses
  have hc : (ownerView s).cpc = toOPc s.opc := rfl
  have hi : (ownerView s).idle = s.idle := rfl
  cases ho : s.opc with
  | destroy a =>
    cases a
    · cases hid : s.idle <;>
        simp [Tp.accesses, hc, hi, ho, hid, toOPc, Tp.acc, kAcc, kLoc, kLock, Dom.has, ownerDom, thrOf, rqOf]
    · simp [Tp.accesses, hc, ho, toOPc]
  | kill t => simp [Tp.accesses, hc, ho, toOPc, Tp.acc, kAcc, kLoc, kLock, Dom.has, ownerDom, thrOf, rqOf]
  | joinW t => simp [Tp.accesses, hc, ho, toOPc, Tp.acc, kAcc, kLoc, kLock, Dom.has, ownerDom, thrOf, rqOf]
  | _ => simp [Tp.accesses, hc, ho, toOPc]

theorem norace_owner_client {s : St} (hE : Excl s) (c : Nat) (r : Bool) :
    racyK (ownerAccesses s) (clientAccesses s c r) = false := by
  refine racyK_of_dom (fun t m => Bool.noConfusion m) (fun t m => ?_) (List.all_eq_true.mp (owner_inDomain s)) (client_inDomain s c r)
  have hc := hE.client (List.contains_iff_mem.mp m)
  rintro (x | x)
  · cases x
  · rcases Bool.or_eq_true _ _ ▸ x with x | x
    · exact hc.1 (List.contains_iff_mem.mp x)
    · exact hc.2.1 (List.contains_iff_mem.mp x)

theorem norace_worker_worker (s : St) (t1 t2 : Nat) (hne : t1 ≠ t2) :
    racyK (workerAccesses s t1) (workerAccesses s t2) = false := by
  refine racyK_of_dom (fun t m => ?_) (fun t m => ?_) (List.all_eq_true.mp (worker_inDomain s t1))
    (List.all_eq_true.mp (worker_inDomain s t2))
  · rintro (x | x)
    · exact hne ((beq_iff_eq.mp m).symm.trans (beq_iff_eq.mp x))
    · cases x
  · rintro (x | x)
    · exact hne ((beq_iff_eq.mp x).symm.trans (beq_iff_eq.mp m))
    · cases x

theorem norace_of_inv {s : St} (hE : Excl s) (hS : Sh s) (w1 w2 : Who) : raceBetweenK s w1 w2 = false := by
  have key : w1 ≠ w2 → racyK (accK s w1) (accK s w2) = false := by
    intro hne
    have cross : ∀ c1 c2 r1 r2, c1 ≠ c2 → racyK (clientAccesses s c1 r1) (clientAccesses s c2 r2) = false :=
      fun c1 c2 r1 r2 hc => (racyK_false_iff _ _).mpr (clients_no_conflict hE hc r1 r2)
    rcases w1 with _ | c1 | c1 | t1 <;> rcases w2 with _ | c2 | c2 | t2
    · exact absurd rfl hne
    · exact norace_owner_client hE c2 false
    · exact norace_owner_client hE c2 true
    · exact norace_owner_worker hE hS t2
    · rw [racyK_symm]; exact norace_owner_client hE c1 false
    · exact cross c1 c2 false false (fun e => hne (by rw [e]))
    · by_cases e : c1 = c2
      · subst e; exact norace_same_client hE c1
      · exact cross c1 c2 false true e
    · exact norace_client_worker hE hS c1 t2 false
    · rw [racyK_symm]; exact norace_owner_client hE c1 true
    · by_cases e : c1 = c2
      · subst e; rw [racyK_symm]; exact norace_same_client hE c1
      · exact cross c1 c2 true false e
    · exact cross c1 c2 true true (fun e => hne (by rw [e]))
    · exact norace_client_worker hE hS c1 t2 true
    · rw [racyK_symm]; exact norace_owner_worker hE hS t1
    · rw [racyK_symm]; exact norace_client_worker hE hS c2 t1 false
    · rw [racyK_symm]; exact norace_client_worker hE hS c2 t1 true
    · exact norace_worker_worker s t1 t2 (fun e => hne (by rw [e]))
  unfold raceBetweenK
  by_cases hne : w1 = w2
  · simp [hne]
  · rw [key hne]; simp

/-- NO DATA RACE, any number of clients on one pool -/
theorem norace_reachable {n max njobs : Nat} {o : Bool} {s : St} (hr : Reachable n max njobs o s) :
    ∀ w1 w2, raceBetweenK s w1 w2 = false :=
  fun w1 w2 => norace_of_inv (inv_reachable hr).1 (inv_reachable hr).2 w1 w2

end TpK
