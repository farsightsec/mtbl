import MtblModel.Sorter
import MtblProofs.MergerProofs
import MtblProofs.OrderProofs
/-
  C06 — the sorter (mtbl/sorter.c): `foldChunk` (the de-duplicating left fold of a key-sorted batch),
  the spill rule, the refusal of `add` after `iter`, the temporary-file template, and the main theorem:
  whatever the memory limit (chunking) and whatever key-sorting permutation `qsort` picks, draining the
  sorter's iterator yields every distinct key once, ascending, with a value obtained by combining exactly
  the values added for that key with the merge function.
-/
namespace Mtbl

/-- `Folded f k vs v`: v is obtained by combining ALL the values `vs` (each exactly once) with the merge
    function, in some order and bracketing -/
inductive Folded (f : Bytes → Bytes → Bytes → Option Bytes) (k : Bytes) : List Bytes → Bytes → Prop
  | one (a) : Folded f k [a] a
  | join {l1 l2 a b c} : Folded f k l1 a → Folded f k l2 b → f k a b = some c → Folded f k (l1 ++ l2) c
  | perm {l l' v} : Folded f k l v → l'.Perm l → Folded f k l' v

namespace SorterProofs
open MergerProofs (valuesOf_perm valuesOf_append valuesOf_all valuesOf_none perm_keys
  remaining_iter_start)

theorem foldl1?_singleton (f : Bytes → Bytes → Bytes → Option Bytes) (k a : Bytes) :
    foldl1? f k [a] = some a := rfl

theorem foldl1?_cons_cons (f : Bytes → Bytes → Bytes → Option Bytes) (k a b mv : Bytes) (vs : List Bytes)
    (h : f k a b = some mv) : foldl1? f k (a :: b :: vs) = foldl1? f k (mv :: vs) := by
  simp [foldl1?, List.foldlM_cons, h]

theorem Folded_foldlM {f : Bytes → Bytes → Bytes → Option Bytes} {k : Bytes} :
    ∀ (vs : List Bytes) (l0 : List Bytes) (a v : Bytes), Folded f k l0 a →
      vs.foldlM (fun acc x => f k acc x) a = some v → Folded f k (l0 ++ vs) v := by
  intro vs
  induction vs with
  | nil =>
    intro l0 a v h0 h
    simp only [List.foldlM_nil] at h
    have : a = v := by simpa using h
    subst this
    simpa using h0
  | cons x xs ih =>
    intro l0 a v h0 h
    rw [List.foldlM_cons] at h
    cases hf : f k a x with
    | none => rw [hf] at h; simp at h
    | some a' =>
      rw [hf] at h
      have h1 : Folded f k (l0 ++ [x]) a' := Folded.join h0 (Folded.one x) hf
      have := ih (l0 ++ [x]) a' v h1 (by simpa using h)
      simpa using this

theorem Folded_of_foldl1? {f : Bytes → Bytes → Bytes → Option Bytes} {k : Bytes} {l : List Bytes} {v : Bytes}
    (h : foldl1? f k l = some v) : Folded f k l v := by
  cases l with
  | nil => simp [foldl1?] at h
  | cons a vs =>
    have := Folded_foldlM vs [a] a v (Folded.one a) h
    simpa using this

theorem Folded_ne_nil {f : Bytes → Bytes → Bytes → Option Bytes} {k : Bytes} {l : List Bytes} {v : Bytes}
    (h : Folded f k l v) : l ≠ [] := by
  induction h with
  | one a => simp
  | join _ _ _ ih1 _ => simp [ih1]
  | perm _ hp ih =>
    intro he; subst he
    exact ih hp.symm.eq_nil

theorem valuesOf_cons (k : Bytes) (e : Entry) (es : List Entry) :
    valuesOf k (e :: es) = if e.key = k then e.val :: valuesOf k es else valuesOf k es := by
  unfold valuesOf
  by_cases h : e.key = k <;> simp [h]

theorem mem_valuesOf {k v : Bytes} {es : List Entry} :
    v ∈ valuesOf k es ↔ ∃ e ∈ es, e.key = k ∧ e.val = v := by
  simp [valuesOf, and_assoc]

theorem valuesOf_eq_nil {k : Bytes} {es : List Entry} :
    valuesOf k es = [] ↔ ∀ e ∈ es, e.key ≠ k := by
  constructor
  · intro h e he hk
    have : e.val ∈ valuesOf k es := mem_valuesOf.mpr ⟨e, he, hk, rfl⟩
    rw [h] at this; simp at this
  · exact valuesOf_none k es

theorem exists_key_cons (e : Entry) (l : List Entry) (k : Bytes) :
    (∃ x ∈ e :: l, x.key = k) ↔ e.key = k ∨ ∃ x ∈ l, x.key = k := by
  simp only [List.mem_cons, or_and_right, exists_or, exists_eq_left]

theorem sorted_head_lt {e n : Entry} {rest : List Entry} (hs : Sorted (e :: n :: rest))
    (hkn : e.key ≠ n.key) : ∀ x ∈ n :: rest, bcmp e.key x.key = .lt := by
  have h1 := List.pairwise_cons.mp hs
  have hn : bcmp e.key n.key = .lt := by
    rcases (bcmp_le_iff _ _).mp (h1.1 n List.mem_cons_self) with h | h
    · exact h
    · exact absurd h hkn
  intro x hx
  rcases List.mem_cons.mp hx with rfl | hx
  · exact hn
  · exact bcmp_lt_le_trans hn ((List.pairwise_cons.mp h1.2).1 x hx)

theorem foldChunk_cons_eq (m : Option (Bytes → Bytes → Bytes → Option Bytes)) {e n : Entry} (rest : List Entry)
    (hk : e.key = n.key) :
    foldChunk m (e :: n :: rest) =
      match m with
      | none => .noMergeFn
      | some f => match f e.key e.val n.val with
        | none => .mergeFailed
        | some mv => foldChunk m ({ key := e.key, val := mv } :: rest) := by
  rw [foldChunk.eq_def]
  exact if_pos (bcmp_beq_eq_iff.mpr hk)

theorem foldChunk_cons_ne (m : Option (Bytes → Bytes → Bytes → Option Bytes)) {e n : Entry} (rest : List Entry)
    (hk : e.key ≠ n.key) :
    foldChunk m (e :: n :: rest) =
      match foldChunk m (n :: rest) with
      | .ok out => .ok (e :: out)
      | r => r := by
  rw [foldChunk.eq_def]
  exact if_neg fun h => hk (bcmp_beq_eq_iff.mp h)

theorem foldChunk_spec (f : Bytes → Bytes → Bytes → Option Bytes) (hok : ∀ k a b, f k a b ≠ none)
    (l : List Entry) (hs : Sorted l) :
    ∃ out, foldChunk (some f) l = .ok out ∧ out.length ≤ l.length ∧ StrictSorted out ∧
      (∀ k, (∃ e ∈ out, e.key = k) ↔ (∃ e ∈ l, e.key = k)) ∧
      ∀ e ∈ out, foldl1? f e.key (valuesOf e.key l) = some e.val := by
  fun_induction foldChunk (some f) l with
  | case1 => exact ⟨[], rfl, Nat.le_refl _, List.Pairwise.nil, fun _ => Iff.rfl, fun _ h => nomatch h⟩
  | case2 e =>
    refine ⟨[e], rfl, Nat.le_refl _, List.pairwise_singleton _ _, fun _ => Iff.rfl, fun x hx => ?_⟩
    rw [List.mem_singleton.mp hx, valuesOf_cons, if_pos rfl]
    rfl
  | case3 e n rest hk hm => cases hm
  | case4 e n rest hk f' hm hf =>
    cases hm
    exact absurd hf (hok _ _ _)
  | case5 e n rest hk f' hm mv hf ih =>
    cases hm
    have hkn : e.key = n.key := bcmp_beq_eq_iff.mp hk
    have h1 := List.pairwise_cons.mp hs
    obtain ⟨out, g1, g0, g2, g3, g4⟩ := ih (List.pairwise_cons.mpr
      ⟨fun x hx => h1.1 x (List.mem_cons_of_mem _ hx), (List.pairwise_cons.mp h1.2).2⟩)
    refine ⟨out, g1, Nat.le_succ_of_le g0, g2, fun k => ?_, fun x hx => ?_⟩
    · rw [g3 k, exists_key_cons, exists_key_cons, exists_key_cons, ← hkn, or_self_left]
    · rw [← g4 x hx, valuesOf_cons, valuesOf_cons, valuesOf_cons, ← hkn]
      by_cases hxe : e.key = x.key
      · rw [if_pos hxe, if_pos hxe, if_pos hxe, ← hxe]
        exact foldl1?_cons_cons f e.key e.val n.val mv _ hf
      · rw [if_neg hxe, if_neg hxe, if_neg hxe]
  | case6 e n rest hk out' ho ih =>
    have hlt := sorted_head_lt hs fun h => hk (bcmp_beq_eq_iff.mpr h)
    obtain ⟨out, g1, g0, g2, g3, g4⟩ := ih (Sorted_cons.mp hs).2
    cases ho.symm.trans g1
    have hlt' : ∀ x ∈ out', bcmp e.key x.key = .lt := fun x hx => by
      obtain ⟨y, hy, hyk⟩ := (g3 x.key).mp ⟨x, hx, rfl⟩
      exact hyk ▸ hlt y hy
    refine ⟨e :: out', rfl, Nat.succ_le_succ g0, List.pairwise_cons.mpr ⟨hlt', g2⟩, fun k => ?_, fun x hx => ?_⟩
    · rw [exists_key_cons, exists_key_cons e, g3 k]
    · rw [valuesOf_cons]
      rcases List.mem_cons.mp hx with rfl | hx
      · rw [if_pos rfl, valuesOf_none _ _ fun y hy => ne_of_bcmp_lt (hlt y hy)]
        rfl
      · rw [if_neg (ne_of_bcmp_lt (hlt' x hx)).symm]
        exact g4 x hx
  | case7 e n rest hk hno ih =>
    obtain ⟨out, g1, _⟩ := ih (Sorted_cons.mp hs).2
    exact absurd g1 (hno out)

theorem foldChunk_strictSorted (m : Option (Bytes → Bytes → Bytes → Option Bytes)) (l : List Entry)
    (hs : StrictSorted l) : foldChunk m l = .ok l := by
  induction l with
  | nil => exact foldChunk.eq_1 m
  | cons e t ih =>
    cases t with
    | nil => exact foldChunk.eq_2 m e
    | cons n rest =>
      have h1 := List.pairwise_cons.mp hs
      rw [foldChunk_cons_ne m rest (ne_of_bcmp_lt (h1.1 n List.mem_cons_self)).symm, ih h1.2]

theorem foldChunk_noMergeFn (l : List Entry) (hs : Sorted l) (hd : ¬ StrictSorted l) :
    foldChunk none l = .noMergeFn := by
  induction l with
  | nil => exact absurd List.Pairwise.nil hd
  | cons e t ih =>
    cases t with
    | nil => exact absurd (List.pairwise_singleton _ _) hd
    | cons n rest =>
      by_cases hk : e.key = n.key
      · rw [foldChunk_cons_eq none rest hk]
      · rw [foldChunk_cons_ne none rest hk,
          ih (Sorted_cons.mp hs).2 fun h => hd (List.pairwise_cons.mpr ⟨sorted_head_lt hs hk, h⟩)]

/-- bytes `mtbl_sorter_add` accounts for one entry: `sizeof(struct entry) + len_key + len_val` -/
def _root_.Mtbl.SCfg.entrySize (c : SCfg) (e : Entry) : Nat := c.entryOverhead + e.key.length + e.val.length

/-- the memory invariant between calls: `entry_bytes` is exact and the batch is below the limit -/
structure _root_.Mtbl.SpillInv (s : Sorter) : Prop where
  bytes : s.entryBytes = (s.vec.map s.cfg.entrySize).sum
  below : s.entryBytes + s.cfg.ptrSize * s.vec.length < s.cfg.effMemory

theorem flush_cfg (s : Sorter) : s.flush.2.cfg = s.cfg := by
  unfold Sorter.flush; split <;> rfl
theorem flush_vec (s : Sorter) : s.flush.2.vec = [] := by
  unfold Sorter.flush; split <;> rfl
theorem flush_entryBytes (s : Sorter) : s.flush.2.entryBytes = 0 := by
  unfold Sorter.flush; split <;> rfl
theorem flush_spills (s : Sorter) : s.flush.2.spills = s.spills + 1 := by
  unfold Sorter.flush; split <;> rfl
theorem flush_iterating (s : Sorter) : s.flush.2.iterating = s.iterating := by
  unfold Sorter.flush; split <;> rfl

theorem add_cfg (s : Sorter) (k v : Bytes) : (s.add k v).2.cfg = s.cfg := by
  unfold Sorter.add
  split
  · rfl
  · simp only []
    split
    · rw [flush_cfg]
    · rfl

theorem addAll_cfg (s : Sorter) (es : List Entry) : (s.addAll es).2.cfg = s.cfg := by
  induction es generalizing s with
  | nil => rfl
  | cons e es ih => simp only [Sorter.addAll]; rw [ih, add_cfg]

/-- the clamp of `mtbl_sorter_options_set_max_memory`: the effective limit is at least MIN_SORTER_MEMORY -/
theorem effMemory_ge_min (c : SCfg) : c.minMemory ≤ c.effMemory ∧ c.maxMemory ≤ c.effMemory := by
  unfold SCfg.effMemory; split <;> omega

theorem spillInv_fresh (c : SCfg) (h : 0 < c.effMemory) : SpillInv { cfg := c } :=
  ⟨rfl, by simpa using h⟩

theorem spillInv_add (s : Sorter) (k v : Bytes) (h : 0 < s.cfg.effMemory) (hi : SpillInv s) :
    SpillInv (s.add k v).2 := by
  unfold Sorter.add
  split
  · exact hi
  · simp only []
    split
    · refine ⟨?_, ?_⟩
      · rw [flush_entryBytes, flush_vec]; rfl
      · rw [flush_entryBytes, flush_vec, flush_cfg]; simpa using h
    · rename_i hlt
      refine ⟨?_, by simpa using hlt⟩
      simp only [List.map_append, List.sum_append, List.map_cons, List.map_nil, List.sum_cons,
        List.sum_nil, SCfg.entrySize, hi.bytes]
      omega

theorem spillInv_addAll (s : Sorter) (es : List Entry) (h : 0 < s.cfg.effMemory) (hi : SpillInv s) :
    SpillInv (s.addAll es).2 := by
  induction es generalizing s with
  | nil => exact hi
  | cons e es ih =>
    simp only [Sorter.addAll]
    exact ih _ (by rw [add_cfg]; exact h) (spillInv_add s e.key e.val h hi)

theorem add_spills (s : Sorter) (k v : Bytes) (hit : s.iterating = false) :
    (s.add k v).2.spills =
      if s.entryBytes + s.cfg.entryOverhead + k.length + v.length + s.cfg.ptrSize * (s.vec.length + 1)
          ≥ s.cfg.effMemory then s.spills + 1 else s.spills := by
  unfold Sorter.add
  simp only [hit, Bool.false_eq_true, if_false, List.length_append, List.length_cons, List.length_nil]
  split
  · rw [flush_spills]
  · rfl

theorem add_iterating (s : Sorter) (k v : Bytes) (h : s.iterating = true) : s.add k v = (.failure, s) := by
  simp [Sorter.add, h]


theorem template_eq (c : SCfg) : c.template = c.tmpDir ++ ("/.mtbl." ++ toString c.pid ++ ".XXXXXX") := by
  simp [SCfg.template, String.append_assoc]

theorem slash_not_mem_toString (n : Nat) : '/' ∉ (toString n).toList := by
  intro h
  have h' : '/' ∈ Nat.toDigits 10 n := by
    simpa [toString, Nat.repr] using h
  have := Nat.isDigit_of_mem_toDigits (by decide) (by decide) h'
  exact absurd this (by decide)

theorem template_suffix (pid : Nat) :
    ∃ rest : List Char, ("/.mtbl." ++ toString pid ++ ".XXXXXX").toList = '/' :: rest ∧ '/' ∉ rest := by
  refine ⟨".mtbl.".toList ++ (toString pid).toList ++ ".XXXXXX".toList, ?_, ?_⟩
  · simp only [String.toList_append]
    rfl
  · simp only [List.mem_append, not_or]
    exact ⟨⟨by decide, slash_not_mem_toString pid⟩, by decide⟩


/-- `ChunkOf f b ch`: `ch` is a correct chunk for the batch `b` -/
structure _root_.Mtbl.ChunkOf (f : Bytes → Bytes → Bytes → Option Bytes) (b ch : List Entry) : Prop where
  ss : StrictSorted ch
  len : ch.length ≤ b.length
  keys : ∀ k, (∃ e ∈ ch, e.key = k) ↔ (∃ e ∈ b, e.key = k)
  vals : ∀ e ∈ ch, Folded f e.key (valuesOf e.key b) e.val

theorem chunkOf_foldChunk {f : Bytes → Bytes → Bytes → Option Bytes} (hok : ∀ k a b, f k a b ≠ none)
    {sortFn : List Entry → List Entry} (hsort : ∀ l, (sortFn l).Perm l ∧ Sorted (sortFn l))
    (b : List Entry) : ∃ ch, foldChunk (some f) (sortFn b) = .ok ch ∧ ChunkOf f b ch := by
  obtain ⟨hp, hs⟩ := hsort b
  obtain ⟨ch, h1, h0, h2, h3, h4⟩ := foldChunk_spec f hok _ hs
  refine ⟨ch, h1, h2, hp.length_eq ▸ h0, ?_, ?_⟩
  · intro k; rw [h3 k]; exact perm_keys hp k
  · intro e he
    exact Folded.perm (Folded_of_foldl1? (h4 e he)) (valuesOf_perm e.key hp).symm

/-- invariant of the add phase, relative to the entries `adds` added so far: the finished chunks are
    correct chunks of consecutive segments (`batches`) of `adds`, and the rest is still buffered -/
structure _root_.Mtbl.AccInv (c : SCfg) (f : Bytes → Bytes → Bytes → Option Bytes) (adds : List Entry)
    (s : Sorter) : Prop where
  cfg : s.cfg = c
  notIter : s.iterating = false
  notAborted : s.aborted = false
  notFailed : s.failedChunk = false
  spills : s.spills = s.chunks.length
  parts : ∃ pairs : List (List Entry × List Entry),
    (∀ p ∈ pairs, ChunkOf f p.1 p.2) ∧ s.chunks = pairs.map (·.2) ∧
      adds = (pairs.map (·.1)).flatten ++ s.vec

theorem accInv_fresh (c : SCfg) (f : Bytes → Bytes → Bytes → Option Bytes) : AccInv c f [] { cfg := c } :=
  { cfg := rfl, notIter := rfl, notAborted := rfl, notFailed := rfl, spills := rfl, parts := ⟨[], by simp, rfl, rfl⟩ }

section
variable {c : SCfg} {f : Bytes → Bytes → Bytes → Option Bytes}
  (hsort : ∀ l, (c.sortFn l).Perm l ∧ Sorted (c.sortFn l)) (hm : c.merge = some f)
  (hok : ∀ k a b, f k a b ≠ none)
include hsort hm hok

theorem accInv_flush {adds : List Entry} {s : Sorter} (hi : AccInv c f adds s) :
    s.flush.1 = .success ∧ AccInv c f adds s.flush.2 ∧ s.flush.2.vec = [] := by
  obtain ⟨ch, h1, h2⟩ := chunkOf_foldChunk hok hsort s.vec
  obtain ⟨pairs, p1, p2, p3⟩ := hi.parts
  have hfl : s.flush = (.success,
      { s with vec := [], entryBytes := 0, spills := s.spills + 1, chunks := s.chunks ++ [ch] }) := by
    unfold Sorter.flush
    rw [hi.cfg, hm, h1]
  rw [hfl]
  refine ⟨rfl, { hi with spills := ?_, parts := ⟨pairs ++ [(s.vec, ch)], ?_, ?_, ?_⟩ }, rfl⟩
  · simp [hi.spills]
  · intro p hp
    rcases List.mem_append.mp hp with hp | hp
    · exact p1 p hp
    · have : p = (s.vec, ch) := by simpa using hp
      subst this; exact h2
  · simp [p2]
  · simp [p3]

theorem accInv_add {adds : List Entry} {s : Sorter} (hi : AccInv c f adds s) (k v : Bytes) :
    (s.add k v).1 = .success ∧ AccInv c f (adds ++ [⟨k, v⟩]) (s.add k v).2 := by
  obtain ⟨pairs, p1, p2, p3⟩ := hi.parts
  have hi1 : AccInv c f (adds ++ [⟨k, v⟩])
      { s with vec := s.vec ++ [{ key := k, val := v }],
               entryBytes := s.entryBytes + s.cfg.entryOverhead + k.length + v.length } :=
    { hi with parts := ⟨pairs, p1, p2, by simp [p3]⟩ }
  unfold Sorter.add
  rw [if_neg (by simp [hi.notIter])]
  simp only []
  split
  · have := accInv_flush hsort hm hok hi1
    exact ⟨this.1, this.2.1⟩
  · exact ⟨rfl, hi1⟩

theorem accInv_addAll (es : List Entry) {adds : List Entry} {s : Sorter} (hi : AccInv c f adds s) :
    (∀ r ∈ (s.addAll es).1, r = .success) ∧ AccInv c f (adds ++ es) (s.addAll es).2 := by
  induction es generalizing adds s with
  | nil => simpa [Sorter.addAll] using hi
  | cons e es ih =>
    obtain ⟨h1, h2⟩ := accInv_add hsort hm hok hi e.key e.val
    obtain ⟨h3, h4⟩ := ih h2
    simp only [Sorter.addAll]
    refine ⟨?_, ?_⟩
    · intro r hr
      rcases List.mem_cons.mp hr with rfl | hr
      · exact h1
      · exact h3 r hr
    · simpa using h4
end



theorem perm_map_lift {α β : Type} (g : α → β) {l' l : List β} (hp : l'.Perm l) :
    ∀ ps : List α, ps.map g = l' → ∃ ps' : List α, ps'.Perm ps ∧ ps'.map g = l := by
  induction hp with
  | nil => intro ps h; exact ⟨ps, List.Perm.refl _, h⟩
  | cons x _ ih =>
    intro ps h
    cases ps with
    | nil => simp at h
    | cons p ps0 =>
      simp only [List.map_cons, List.cons.injEq] at h
      obtain ⟨ps0', h1, h2⟩ := ih ps0 h.2
      exact ⟨p :: ps0', h1.cons p, by simp [h.1, h2]⟩
  | swap x y l =>
    intro ps h
    match ps, h with
    | p :: q :: r, h =>
      simp only [List.map_cons, List.cons.injEq] at h
      exact ⟨q :: p :: r, List.Perm.swap _ _ _, by simp [h.1, h.2.1, h.2.2]⟩
  | trans _ _ ih1 ih2 =>
    intro ps h
    obtain ⟨ps1, h1, h2⟩ := ih1 ps h
    obtain ⟨ps2, h3, h4⟩ := ih2 ps1 h2
    exact ⟨ps2, h3.trans h1, h4⟩

/-- substitution: if `v` combines the values `l` and every element of `l` itself combines a group of
    values, then `v` combines the concatenation of the groups -/
theorem Folded_bind {f : Bytes → Bytes → Bytes → Option Bytes} {k : Bytes} {l : List Bytes} {v : Bytes}
    (h : Folded f k l v) : ∀ ps : List (List Bytes × Bytes), ps.map (·.2) = l →
      (∀ p ∈ ps, Folded f k p.1 p.2) → Folded f k (ps.flatMap (·.1)) v := by
  induction h with
  | one a =>
    intro ps h hp
    match ps, h with
    | [p], h =>
      have h' : p.2 = a := by simpa using h
      have := hp p (by simp)
      rw [h'] at this
      simpa using this
  | join _ _ hf ih1 ih2 =>
    intro ps h hp
    obtain ⟨ps1, ps2, rfl, h1, h2⟩ := List.map_eq_append_iff.mp h
    rw [List.flatMap_append]
    exact Folded.join (ih1 ps1 h1 fun p hp' => hp p (List.mem_append_left _ hp'))
      (ih2 ps2 h2 fun p hp' => hp p (List.mem_append_right _ hp')) hf
  | perm _ hperm ih =>
    intro ps h hp
    obtain ⟨ps', h1, h2⟩ := perm_map_lift _ hperm ps h
    exact Folded.perm (ih ps' h2 fun p hp' => hp p (h1.mem_iff.mp hp')) (h1.symm.flatMap_right _)

theorem valuesOf_strictSorted {ch : List Entry} (hs : StrictSorted ch) (k : Bytes) :
    valuesOf k ch = [] ∨ ∃ e ∈ ch, e.key = k ∧ valuesOf k ch = [e.val] := by
  induction ch with
  | nil => left; rfl
  | cons e t ih =>
    have h1 := List.pairwise_cons.mp hs
    by_cases hk : e.key = k
    · right
      refine ⟨e, List.mem_cons_self, hk, ?_⟩
      have : valuesOf k t = [] := valuesOf_eq_nil.mpr fun y hy he => by
        have := h1.1 y hy
        rw [he, hk, bcmp_refl] at this
        simp at this
      rw [valuesOf_cons, if_pos hk, this]
    · rw [valuesOf_cons, if_neg hk]
      rcases ih h1.2 with h | ⟨x, hx, h2, h3⟩
      · left; exact h
      · right; exact ⟨x, List.mem_cons_of_mem _ hx, h2, h3⟩

/-- per key: the values the chunks hold for `k` are, chunk by chunk, combinations of the values the
    corresponding batches hold for `k` -/
theorem pairs_key {f : Bytes → Bytes → Bytes → Option Bytes} (pairs : List (List Entry × List Entry))
    (hp : ∀ p ∈ pairs, ChunkOf f p.1 p.2) (k : Bytes) :
    ∃ ps : List (List Bytes × Bytes), (∀ q ∈ ps, Folded f k q.1 q.2) ∧
      ps.map (·.2) = valuesOf k (pairs.map (·.2)).flatten ∧
      ps.flatMap (·.1) = valuesOf k (pairs.map (·.1)).flatten := by
  induction pairs with
  | nil => exact ⟨[], by simp, rfl, rfl⟩
  | cons p rest ih =>
    obtain ⟨ps, h1, h2, h3⟩ := ih fun q hq => hp q (List.mem_cons_of_mem _ hq)
    have hc := hp p List.mem_cons_self
    simp only [List.map_cons, List.flatten_cons, valuesOf_append]
    rcases valuesOf_strictSorted hc.ss k with h | ⟨e, he, hek, hv⟩
    · have hb : valuesOf k p.1 = [] := by
        rw [valuesOf_eq_nil] at h ⊢
        intro x hx hxk
        obtain ⟨y, hy, hyk⟩ := (hc.keys k).mpr ⟨x, hx, hxk⟩
        exact h y hy hyk
      exact ⟨ps, h1, by rw [h, h2]; rfl, by rw [hb, h3]; rfl⟩
    · refine ⟨(valuesOf k p.1, e.val) :: ps, ?_, ?_, ?_⟩
      · intro q hq
        rcases List.mem_cons.mp hq with rfl | hq
        · have := hc.vals e he
          rw [hek] at this
          exact this
        · exact h1 q hq
      · simp [hv, h2]
      · simp [h3]


theorem flatMap_remaining_iter_start (chunks : List (List Entry)) :
    (chunks.flatMap fun es => Src.remaining { es := es, kind := srcKind .iter, cur := specSeek es [] })
      = chunks.flatten := by
  induction chunks with
  | nil => rfl
  | cons ch t ih =>
    rw [List.flatMap_cons, ih, List.flatten_cons]
    congr 1
    exact remaining_iter_start ch

theorem mergerIter_iter (mc : MCfg) (tables : List (List Entry)) (start : Bytes) :
    ∃ m, mergerIter mc tables .iter start = some m := ⟨_, rfl⟩

theorem length_flatten_pairs {f : Bytes → Bytes → Bytes → Option Bytes}
    (pairs : List (List Entry × List Entry)) (hp : ∀ p ∈ pairs, ChunkOf f p.1 p.2) :
    (pairs.map (·.2)).flatten.length ≤ (pairs.map (·.1)).flatten.length := by
  induction pairs with
  | nil => simp
  | cons p rest ih =>
    have := ih fun q hq => hp q (List.mem_cons_of_mem _ hq)
    have := (hp p List.mem_cons_self).len
    simp only [List.map_cons, List.flatten_cons, List.length_append]
    omega

theorem keys_flatten_pairs {f : Bytes → Bytes → Bytes → Option Bytes}
    (pairs : List (List Entry × List Entry)) (hp : ∀ p ∈ pairs, ChunkOf f p.1 p.2) (k : Bytes) :
    (∃ e ∈ (pairs.map (·.2)).flatten, e.key = k) ↔ (∃ e ∈ (pairs.map (·.1)).flatten, e.key = k) := by
  induction pairs with
  | nil => simp
  | cons p rest ih =>
    have h1 := ih fun q hq => hp q (List.mem_cons_of_mem _ hq)
    have h2 := (hp p List.mem_cons_self).keys k
    simp only [List.map_cons, List.flatten_cons, List.mem_append, or_and_right, exists_or]
    rw [h1, h2]


/-- the merger over correct chunks of the batches, taken in any order `cs` (the pool delivers them unordered) -/
theorem chunks_drain {f : Bytes → Bytes → Bytes → Option Bytes} (hok : ∀ k a b, f k a b ≠ none)
    {pairs : List (List Entry × List Entry)} (p1 : ∀ p ∈ pairs, ChunkOf f p.1 p.2)
    {cs : List (List Entry)} (hp : cs.Perm (pairs.map (·.2)))
    (mc : MCfg) (hmm : mc.merge = some f) (hds : mc.dupsort = none) (hF2 : mc.fixF2 = true)
    (fuel : Nat) (hfuel : (pairs.map (·.1)).flatten.length + 1 ≤ fuel) {m : MIter}
    (hmi : mergerIter mc cs .iter [] = some m) :
    MInv mc m ∧ m.finished = false ∧ StrictSorted (mergerDrain mc fuel m) ∧
      (∀ k, (∃ e ∈ mergerDrain mc fuel m, e.key = k) ↔ (∃ e ∈ (pairs.map (·.1)).flatten, e.key = k)) ∧
      ∀ e ∈ mergerDrain mc fuel m, Folded f e.key (valuesOf e.key (pairs.map (·.1)).flatten) e.val := by
  have htot := hle_total_of_no_dupsort mc hds
  have htrans := hle_trans_of_no_dupsort mc hds
  obtain ⟨g1, g2, g3⟩ := mergerIter_inv mc htot htrans cs (fun es hes => by
    obtain ⟨p, hp', rfl⟩ := List.mem_map.mp (hp.mem_iff.mp hes)
    exact (p1 p hp').ss.sorted) .iter [] hmi
  rw [flatMap_remaining_iter_start] at g3
  have g3 := g3.trans hp.flatten
  have hlen : (pool m).length < fuel :=
    Nat.lt_of_le_of_lt (g3.length_eq ▸ length_flatten_pairs pairs p1) hfuel
  obtain ⟨d1, d2, d3, d4⟩ := MergerProofs.drain_merge mc hF2 htot htrans hmm hok fuel m g1 hlen
  refine ⟨g1, g2, d1, fun k => ?_, fun e he => ?_⟩
  · rw [← keys_flatten_pairs pairs p1 k, ← perm_keys g3 k]
    exact ⟨fun ⟨e, he, hk⟩ => let ⟨e', he', h⟩ := d2 e he; ⟨e', he', h.trans hk⟩,
      fun ⟨e', he', hk⟩ => let ⟨e, he, h⟩ := d3 e' he'; ⟨e, he, h.trans hk⟩⟩
  · obtain ⟨l, l1, l2⟩ := d4 e he
    obtain ⟨ps, q1, q2, q3⟩ := pairs_key pairs p1 e.key
    rw [← q3]
    exact Folded_bind (Folded.perm (Folded_of_foldl1? l2) ((valuesOf_perm e.key g3).symm.trans l1.symm)) ps q2 q1

section
variable {c : SCfg} {f : Bytes → Bytes → Bytes → Option Bytes}
  (hsort : ∀ l, (c.sortFn l).Perm l ∧ Sorted (c.sortFn l)) (hm : c.merge = some f)
  (hok : ∀ k a b, f k a b ≠ none)
include hsort hm hok

/-- the final flush of `mtbl_sorter_iter` -/
theorem accInv_finalFlush {adds : List Entry} {s : Sorter} (hi : AccInv c f adds s) :
    ∃ s1, (if s.vec.length > 0 then s.flush else (.success, s)) = (.success, s1) ∧
      AccInv c f adds s1 ∧ s1.vec = [] := by
  by_cases hv : s.vec.length > 0
  · rw [if_pos hv]
    obtain ⟨h1, h2, h3⟩ := accInv_flush hsort hm hok hi
    exact ⟨s.flush.2, by rw [← h1], h2, h3⟩
  · rw [if_neg hv]
    exact ⟨s, rfl, hi, List.eq_nil_of_length_eq_zero (by omega)⟩

theorem accInv_iter {adds : List Entry} {s : Sorter} (hi : AccInv c f adds s)
    (mc : MCfg) (hmm : mc.merge = some f) (hds : mc.dupsort = none) (hF2 : mc.fixF2 = true)
    (fuel : Nat) (hfuel : adds.length + 1 ≤ fuel) :
    ∃ m, (s.iter mc).1 = some m ∧ (s.iter mc).2.iterating = true ∧ (s.iter mc).2.vec = [] ∧
      MInv mc m ∧ m.finished = false ∧
      StrictSorted (mergerDrain mc fuel m) ∧
      (∀ k, (∃ e ∈ mergerDrain mc fuel m, e.key = k) ↔ (∃ e ∈ adds, e.key = k)) ∧
      ∀ e ∈ mergerDrain mc fuel m, Folded f e.key (valuesOf e.key adds) e.val := by
  obtain ⟨s1, hr, hi1, hv1⟩ := accInv_finalFlush hsort hm hok hi
  obtain ⟨pairs, p1, p2, p3⟩ := hi1.parts
  rw [hv1, List.append_nil] at p3
  obtain ⟨m, hmi⟩ := mergerIter_iter mc s1.chunks []
  have hiter : s.iter mc = (some m, { s1 with iterating := true }) := by
    unfold Sorter.iter
    simp only [hr]
    rw [if_neg (by decide)]
    simp only [hmi]
  rw [hiter, p3]
  exact ⟨m, rfl, rfl, hv1, chunks_drain hok p1 (p2 ▸ List.Perm.refl _) mc hmm hds hF2 fuel (p3 ▸ hfuel) hmi⟩
end


/-- add everything to a fresh sorter, take the iterator, drain it (at most `fuel` calls of `next`) -/
def _root_.Mtbl.sorterRun (c : SCfg) (mc : MCfg) (fuel : Nat) (adds : List Entry) : Option (List Entry) :=
  ((Sorter.addAll { cfg := c } adds).2.iter mc).1.map (mergerDrain mc fuel)

/-- **C06, spill rule.** -/
theorem _root_.Mtbl.C06_spill (c : SCfg) (h : 0 < c.effMemory) (adds : List Entry) :
    let s := (Sorter.addAll { cfg := c } adds).2
    s.entryBytes + c.ptrSize * s.vec.length < c.effMemory ∧
    s.entryBytes = (s.vec.map fun e => c.entryOverhead + e.key.length + e.val.length).sum := by
  have hi := spillInv_addAll { cfg := c } adds h (spillInv_fresh c h)
  have hc := addAll_cfg { cfg := c } adds
  have h1 := hi.below
  have h2 := hi.bytes
  rw [hc] at h1 h2
  exact ⟨h1, h2⟩

/-- **C06, `add` is refused once iteration has begun.** -/
theorem _root_.Mtbl.C06_refuse (s : Sorter) (k v : Bytes) (h : s.iterating = true) :
    s.add k v = (.failure, s) := add_iterating s k v h

/-- **C06, spill files lie directly inside the configured directory.** -/
theorem _root_.Mtbl.C06_tmp (c : SCfg) :
    c.template = c.tmpDir ++ "/.mtbl." ++ toString c.pid ++ ".XXXXXX" ∧
    ∃ rest : List Char, c.template.toList = c.tmpDir.toList ++ '/' :: rest ∧ '/' ∉ rest := by
  refine ⟨rfl, ?_⟩
  obtain ⟨rest, h1, h2⟩ := template_suffix c.pid
  exact ⟨rest, by rw [template_eq, String.toList_append, h1], h2⟩

section
variable (c : SCfg) (f : Bytes → Bytes → Bytes → Option Bytes)
  (hsort : ∀ l, (c.sortFn l).Perm l ∧ Sorted (c.sortFn l)) (hm : c.merge = some f)
  (hok : ∀ k a b, f k a b ≠ none)
include hsort hm hok

/-- **C06, the main theorem.** -/
theorem _root_.Mtbl.C06_output (mc : MCfg) (hmm : mc.merge = some f) (hds : mc.dupsort = none)
    (hF2 : mc.fixF2 = true) (adds : List Entry) (fuel : Nat) (hfuel : adds.length + 1 ≤ fuel) :
    let r := Sorter.addAll { cfg := c } adds
    (∀ x ∈ r.1, x = .success) ∧
    ∃ m, (r.2.iter mc).1 = some m ∧ (r.2.iter mc).2.iterating = true ∧
      StrictSorted (mergerDrain mc fuel m) ∧
      (∀ k, (∃ e ∈ mergerDrain mc fuel m, e.key = k) ↔ (∃ e ∈ adds, e.key = k)) ∧
      ∀ e ∈ mergerDrain mc fuel m, Folded f e.key (valuesOf e.key adds) e.val := by
  obtain ⟨h1, h2⟩ := accInv_addAll hsort hm hok adds (accInv_fresh c f)
  rw [List.nil_append] at h2
  obtain ⟨m, g1, g2, _, _, _, g5, g6, g7⟩ := accInv_iter hsort hm hok h2 mc hmm hds hF2 fuel hfuel
  exact ⟨h1, m, g1, g2, g5, g6, g7⟩

end


/-! ### associative-commutative merge functions: the output is THE fold, and is unique -/

section
variable {f : Bytes → Bytes → Bytes → Option Bytes} (g : Bytes → Bytes → Bytes → Bytes)
  (hf : ∀ k a b, f k a b = some (g k a b))
  (hassoc : ∀ k a b c, g k (g k a b) c = g k a (g k b c))
  (hcomm : ∀ k a b, g k a b = g k b a)

include hf in
theorem foldl1?_total (k x : Bytes) (xs : List Bytes) :
    foldl1? f k (x :: xs) = some (xs.foldl (g k) x) := by
  show xs.foldlM (fun acc y => f k acc y) x = some (xs.foldl (g k) x)
  induction xs generalizing x with
  | nil => rfl
  | cons y ys ih => rw [List.foldlM_cons, hf]; exact ih (g k x y)

include hassoc in
theorem foldl_assoc (k a y : Bytes) (ys : List Bytes) :
    g k a (ys.foldl (g k) y) = ys.foldl (g k) (g k a y) := by
  induction ys generalizing y with
  | nil => rfl
  | cons z zs ih => simp only [List.foldl_cons]; rw [ih, hassoc]

include hassoc hcomm in
theorem foldl_perm (k : Bytes) {xs ys : List Bytes} (hp : xs.Perm ys) :
    ∀ a, xs.foldl (g k) a = ys.foldl (g k) a := by
  induction hp with
  | nil => intro a; rfl
  | cons x _ ih => intro a; simp only [List.foldl_cons]; exact ih _
  | swap x y l =>
    intro a
    simp only [List.foldl_cons]
    rw [hassoc, hcomm k y x, ← hassoc]
  | trans _ _ ih1 ih2 => intro a; rw [ih1, ih2]

include hassoc hcomm in
theorem foldl_perm_cons (k : Bytes) {x x' : Bytes} {xs xs' : List Bytes} (hp : (x :: xs).Perm (x' :: xs')) :
    xs.foldl (g k) x = xs'.foldl (g k) x' := by
  by_cases hx : x = x'
  · subst hx
    exact foldl_perm g hassoc hcomm k hp.cons_inv x
  · have hmem : x ∈ xs' := by
      have : x ∈ x' :: xs' := hp.mem_iff.mp List.mem_cons_self
      rcases List.mem_cons.mp this with h | h
      · exact absurd h hx
      · exact h
    have h1 : xs'.Perm (x :: xs'.erase x) := List.perm_cons_erase hmem
    have h2 : xs.Perm (x' :: xs'.erase x) := by
      have : (x :: xs).Perm (x :: x' :: xs'.erase x) :=
        hp.trans ((h1.cons x').trans (List.Perm.swap _ _ _))
      exact this.cons_inv
    rw [foldl_perm g hassoc hcomm k h2, foldl_perm g hassoc hcomm k h1]
    simp only [List.foldl_cons]
    rw [hcomm k x x']

include hf hassoc hcomm in
theorem foldl1?_of_Folded {k : Bytes} {vs : List Bytes} {v : Bytes} (h : Folded f k vs v) :
    foldl1? f k vs = some v := by
  induction h with
  | one a => rfl
  | @join l1 l2 a b c h1 h2 hc ih1 ih2 =>
    cases l1 with
    | nil => exact absurd rfl (Folded_ne_nil h1)
    | cons x xs =>
      cases l2 with
      | nil => exact absurd rfl (Folded_ne_nil h2)
      | cons y ys =>
        rw [foldl1?_total g hf] at ih1 ih2
        rw [hf] at hc
        simp only [Option.some.injEq] at ih1 ih2 hc
        rw [List.cons_append, foldl1?_total g hf, List.foldl_append, List.foldl_cons, ih1,
          ← foldl_assoc g hassoc, ih2, hc]
  | @perm l l' v h hp ih =>
    cases l with
    | nil => exact absurd rfl (Folded_ne_nil h)
    | cons x xs =>
      cases l' with
      | nil => exact absurd hp.symm.eq_nil (by simp)
      | cons x' xs' =>
        rw [foldl1?_total g hf] at ih ⊢
        rw [foldl_perm_cons g hassoc hcomm k hp]
        exact ih
end

theorem strictSorted_ext {l1 l2 : List Entry} (h1 : StrictSorted l1) (h2 : StrictSorted l2)
    (h : ∀ e, e ∈ l1 ↔ e ∈ l2) : l1 = l2 := by
  have nd : ∀ {l : List Entry}, StrictSorted l → l.Nodup := fun hl =>
    List.Pairwise.imp (S := (· ≠ ·)) (fun hlt he => bcmp_lt_irrefl _ (he ▸ hlt)) hl
  exact List.Perm.eq_of_pairwise (fun a b _ _ hab hba => absurd hba (bcmp_lt_asymm hab)) h1 h2
    ((List.perm_ext_iff_of_nodup (nd h1) (nd h2)).mpr h)


section
variable (c : SCfg) (f : Bytes → Bytes → Bytes → Option Bytes)
  (hsort : ∀ l, (c.sortFn l).Perm l ∧ Sorted (c.sortFn l)) (hm : c.merge = some f)
  (g : Bytes → Bytes → Bytes → Bytes)
  (hf : ∀ k a b, f k a b = some (g k a b))
  (hassoc : ∀ k a b c, g k (g k a b) c = g k a (g k b c))
  (hcomm : ∀ k a b, g k a b = g k b a)
include hsort hm hf hassoc hcomm

/-- **C06, the fold.**  With an associative and commutative merge function the value of each key is THE
    (left, arrival-order) fold of the values added for it -/
theorem _root_.Mtbl.C06_output_comm (mc : MCfg) (hmm : mc.merge = some f) (hds : mc.dupsort = none)
    (hF2 : mc.fixF2 = true) (adds : List Entry) (fuel : Nat) (hfuel : adds.length + 1 ≤ fuel) :
    ∃ out, sorterRun c mc fuel adds = some out ∧ StrictSorted out ∧
      (∀ k, (∃ e ∈ out, e.key = k) ↔ (∃ e ∈ adds, e.key = k)) ∧
      ∀ e ∈ out, foldl1? f e.key (valuesOf e.key adds) = some e.val := by
  have hok : ∀ k a b, f k a b ≠ none := by intro k a b; rw [hf]; simp
  obtain ⟨_, m, g1, _, g3, g4, g5⟩ := C06_output c f hsort hm hok mc hmm hds hF2 adds fuel hfuel
  refine ⟨mergerDrain mc fuel m, ?_, g3, g4, fun e he => foldl1?_of_Folded g hf hassoc hcomm (g5 e he)⟩
  unfold sorterRun
  rw [g1]; rfl
end

theorem strictSorted_eq_of_spec {o o' : List Entry} {K : Bytes → Prop} {val : Bytes → Option Bytes}
    (s : StrictSorted o) (s' : StrictSorted o') (k : ∀ k, (∃ e ∈ o, e.key = k) ↔ K k)
    (k' : ∀ k, (∃ e ∈ o', e.key = k) ↔ K k) (v : ∀ e ∈ o, val e.key = some e.val)
    (v' : ∀ e ∈ o', val e.key = some e.val) : o = o' := by
  have key : ∀ (o o' : List Entry), (∀ k, (∃ e ∈ o, e.key = k) ↔ K k) → (∀ k, (∃ e ∈ o', e.key = k) ↔ K k) →
      (∀ e ∈ o, val e.key = some e.val) → (∀ e ∈ o', val e.key = some e.val) → ∀ e ∈ o, e ∈ o' := by
    intro o o' k1 k2 v1 v2 e he
    obtain ⟨e', he', hk⟩ := (k2 e.key).mpr ((k1 e.key).mp ⟨e, he, rfl⟩)
    have h2 := v2 e' he'
    rw [hk, v1 e he] at h2
    have : e = e' := by
      cases e; cases e'
      cases hk; cases h2; rfl
    exact this ▸ he'
  exact strictSorted_ext s s' fun e => ⟨key o o' k k' v v' e, key o' o k' k v' v e⟩

/-- **C06, uniqueness**: the drained output is a function of the multiset of adds: the same for every order of the
    adds, memory limit, `qsort` and (sufficient) fuel -/
theorem sorterRun_perm (c c' : SCfg) (f : Bytes → Bytes → Bytes → Option Bytes)
    (hsort : ∀ l, (c.sortFn l).Perm l ∧ Sorted (c.sortFn l)) (hm : c.merge = some f)
    (hsort' : ∀ l, (c'.sortFn l).Perm l ∧ Sorted (c'.sortFn l)) (hm' : c'.merge = some f)
    (g : Bytes → Bytes → Bytes → Bytes) (hf : ∀ k a b, f k a b = some (g k a b))
    (hassoc : ∀ k a b c, g k (g k a b) c = g k a (g k b c)) (hcomm : ∀ k a b, g k a b = g k b a)
    (mc mc' : MCfg) (hmm : mc.merge = some f) (hds : mc.dupsort = none) (hF2 : mc.fixF2 = true)
    (hmm' : mc'.merge = some f) (hds' : mc'.dupsort = none) (hF2' : mc'.fixF2 = true)
    {adds adds' : List Entry} (hp : adds'.Perm adds) (fuel fuel' : Nat) (hfuel : adds.length + 1 ≤ fuel)
    (hfuel' : adds'.length + 1 ≤ fuel') :
    sorterRun c mc fuel adds = sorterRun c' mc' fuel' adds' := by
  obtain ⟨o1, a1, a2, a3, a4⟩ := C06_output_comm c f hsort hm g hf hassoc hcomm mc hmm hds hF2 adds fuel hfuel
  obtain ⟨o2, b1, b2, b3, b4⟩ :=
    C06_output_comm c' f hsort' hm' g hf hassoc hcomm mc' hmm' hds' hF2' adds' fuel' hfuel'
  rw [a1, b1, strictSorted_eq_of_spec (val := fun k => foldl1? f k (valuesOf k adds)) a2 b2 a3
    (fun k => (b3 k).trans (perm_keys hp k)) a4 fun e he => ?_]
  exact foldl1?_of_Folded g hf hassoc hcomm
    (Folded.perm (Folded_of_foldl1? (b4 e he)) (valuesOf_perm e.key hp.symm))

/-! ### a stable insertion sort as `qsort`; concrete runs -/

def insertByKey (e : Entry) : List Entry → List Entry
  | [] => [e]
  | x :: xs => if bcmp e.key x.key != .gt then e :: x :: xs else x :: insertByKey e xs

/-- stable insertion sort by key -/
def insertionSort (l : List Entry) : List Entry := l.foldr insertByKey []

theorem insertByKey_perm (e : Entry) (l : List Entry) : (insertByKey e l).Perm (e :: l) := by
  induction l with
  | nil => exact List.Perm.refl _
  | cons x xs ih =>
    unfold insertByKey
    split
    · exact List.Perm.refl _
    · exact (ih.cons x).trans (List.Perm.swap _ _ _)

theorem insertByKey_sorted (e : Entry) (l : List Entry) (h : Sorted l) : Sorted (insertByKey e l) := by
  induction l with
  | nil => exact List.pairwise_singleton _ _
  | cons x xs ih =>
    have h1 := List.pairwise_cons.mp h
    unfold insertByKey
    split
    · rename_i hle
      have hle' : bcmp e.key x.key ≠ .gt := by simpa using hle
      refine List.pairwise_cons.mpr ⟨?_, h⟩
      intro y hy
      rcases List.mem_cons.mp hy with rfl | hy
      · exact hle'
      · exact bcmp_le_trans hle' (h1.1 y hy)
    · rename_i hgt
      have hgt' : bcmp e.key x.key = .gt := by simpa using hgt
      refine List.pairwise_cons.mpr ⟨?_, ih h1.2⟩
      intro y hy
      rcases List.mem_cons.mp ((insertByKey_perm e xs).mem_iff.mp hy) with rfl | hy
      · rw [(bcmp_swap' _ _).mp hgt']; simp
      · exact h1.1 y hy

/-- the hypothesis on `qsort` is satisfiable -/
theorem insertionSort_spec (l : List Entry) : (insertionSort l).Perm l ∧ Sorted (insertionSort l) := by
  induction l with
  | nil => exact ⟨List.Perm.refl _, List.Pairwise.nil⟩
  | cons e t ih =>
    exact ⟨(insertByKey_perm e _).trans (ih.1.cons e), insertByKey_sorted e _ ih.2⟩

def catF : Bytes → Bytes → Bytes → Option Bytes := fun _ a b => some (a ++ b)
def exCfg : SCfg := { maxMemory := 40, minMemory := 0, merge := some catF, sortFn := insertionSort }
def exMCfg : MCfg := { merge := some catF, dupsort := none }
def exAdds : List Entry :=
  [⟨[3], [1]⟩, ⟨[2], [2]⟩, ⟨[2], [3]⟩, ⟨[2], [4]⟩, ⟨[1], [5]⟩, ⟨[1], [6]⟩, ⟨[], [7]⟩, ⟨[], [8]⟩]

def exAdds11 : List Entry := exAdds ++ [⟨[1], [9]⟩, ⟨[], [10]⟩, ⟨[4], [11]⟩]

/-- every entry costs 8 + |k| + |v| + 8 bytes: the third entry of a batch reaches the limit of 40, so the
    reverse-sorted 8 adds spill twice, the last two entries (empty key) stay buffered … -/
example : (Sorter.addAll { cfg := exCfg } exAdds).1 = List.replicate 8 Res.success ∧
    (Sorter.addAll { cfg := exCfg } exAdds).2.chunks =
      [[⟨[2], [2, 3]⟩, ⟨[3], [1]⟩], [⟨[1], [5, 6]⟩, ⟨[2], [4]⟩]] ∧
    (Sorter.addAll { cfg := exCfg } exAdds).2.vec = [⟨[], [7]⟩, ⟨[], [8]⟩] ∧
    (Sorter.addAll { cfg := exCfg } exAdds).2.spills = 2 ∧
    (Sorter.addAll { cfg := exCfg } exAdds).2.entryBytes = 18 := by decide +kernel

/-- … `iter` flushes them as the third chunk and the merged output has each key once, ascending; key
    `[2]` (duplicated within chunk 1 and across chunks 1 and 2) gets `4 ++ (2 ++ 3)`: a `Folded`
    combination of its values that is NOT the arrival-order fold (concatenation is not commutative) -/
example : sorterRun exCfg exMCfg 9 exAdds =
    some [⟨[], [7, 8]⟩, ⟨[1], [5, 6]⟩, ⟨[2], [4, 2, 3]⟩, ⟨[3], [1]⟩] := by decide +kernel

/-- the same adds with the default memory limit: one chunk, arrival-order folds -/
example : sorterRun { exCfg with minMemory := 10485760 } exMCfg 9 exAdds =
    some [⟨[], [7, 8]⟩, ⟨[1], [5, 6]⟩, ⟨[2], [2, 3, 4]⟩, ⟨[3], [1]⟩] := by decide +kernel

/-- three spills during the adds and a fourth chunk from the final flush -/
example : (Sorter.addAll { cfg := exCfg } exAdds11).2.chunks =
      [[⟨[2], [2, 3]⟩, ⟨[3], [1]⟩], [⟨[1], [5, 6]⟩, ⟨[2], [4]⟩], [⟨[], [7, 8]⟩, ⟨[1], [9]⟩]] ∧
    (Sorter.addAll { cfg := exCfg } exAdds11).2.vec = [⟨[], [10]⟩, ⟨[4], [11]⟩] ∧
    (Sorter.addAll { cfg := exCfg } exAdds11).2.spills = 3 ∧
    sorterRun exCfg exMCfg 12 exAdds11 =
      some [⟨[], [7, 8, 10]⟩, ⟨[1], [5, 6, 9]⟩, ⟨[2], [2, 3, 4]⟩, ⟨[3], [1]⟩, ⟨[4], [11]⟩] := by
  decide +kernel

/-- after `iter` the sorter refuses adds; an empty sorter yields an iterator that fails at once -/
example : ((((Sorter.addAll { cfg := exCfg } exAdds).2.iter exMCfg).2.add [9] [9]).1 = Res.failure) ∧
    sorterRun exCfg exMCfg 1 [] = some [] := by decide +kernel

/-- duplicates without a merge function: the assertion `s->opt.merge != NULL` fires -/
example : (Sorter.addAll { cfg := { exCfg with merge := none } } exAdds).2.aborted = true := by
  decide +kernel

example : exCfg.template = "/var/tmp/.mtbl.0.XXXXXX" := by decide +kernel


/-
  Not covered by the model (hence by these theorems): what `mtbl_sorter_iter` does with a NULL reader left behind by
  a failed merge callback (`failedChunk`).  The thread-pool path of `_mtbl_sorter_flush` (chunks pushed in completion
  order by `_collect_readers_cb`) is covered only as "any permutation of the chunks" in `PoolSorterProofs`.
-/
end SorterProofs
end Mtbl
