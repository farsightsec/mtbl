import MtblModel.Heap
/-
  libmy/heap.c (`MtblModel/Heap.lean`): sizes, multiset laws, the heap property, root minimality.
  Both sift loops move a hole through the array: `Hole` says what is ordered around it, `Hole.down`/`Hole.up` move it one
  level, `Hole.fill` closes it.
-/
namespace Mtbl.Heap

variable {α : Type} [Inhabited α]

/-- heap property: every element is ≥ its parent -/
def IsHeap (le : α → α → Bool) (v : Array α) : Prop :=
  ∀ i, 0 < i → i < v.size → le v[(i-1)/2]! v[i]! = true

theorem get_set_eq (v : Array α) (p : Nat) (x : α) (hp : p < v.size) :
    (v.setIfInBounds p x)[p]! = x := by
  simp only [getElem!_def, Array.getElem?_setIfInBounds_self_of_lt hp]

theorem get_set_ne (v : Array α) (p i : Nat) (x : α) (h : i ≠ p) :
    (v.setIfInBounds p x)[i]! = v[i]! := by
  simp only [getElem!_def, Array.getElem?_setIfInBounds_ne (Ne.symm h)]

theorem get_set (v : Array α) (p i : Nat) (x : α) (hp : p < v.size) :
    (v.setIfInBounds p x)[i]! = if i = p then x else v[i]! := by
  split
  · next h => rw [h, get_set_eq v p x hp]
  · next h => exact get_set_ne v p i x h

theorem get_pop (v : Array α) (i : Nat) (hi : i < v.size - 1) : v.pop[i]! = v[i]! := by
  simp only [getElem!_def, Array.getElem?_pop, if_pos hi]

theorem get_push_lt (v : Array α) (i : Nat) (x : α) (hi : i < v.size) :
    (v.push x)[i]! = v[i]! := by
  simp only [getElem!_def, Array.getElem?_push_lt hi, Array.getElem?_eq_getElem hi]

theorem get_push_eq (v : Array α) (x : α) : (v.push x)[v.size]! = x := by
  simp only [getElem!_def, Array.getElem?_push_size]

theorem toList_eq_head_tail (v : Array α) (h : 0 < v.size) : v.toList = v[0]! :: v.toList.tail := by
  obtain ⟨l⟩ := v
  cases l with
  | nil => exact absurd h (Nat.lt_irrefl 0)
  | cons a l => rfl

theorem parent_lt {i : Nat} (h : 0 < i) : (i - 1) / 2 < i := by omega

theorem lt_of_parent {i p : Nat} (h : 0 < i) (hp : (i - 1) / 2 = p) : p < i := hp ▸ parent_lt h

theorem parent_iff {i p : Nat} (h : 0 < i) : (i - 1) / 2 = p ↔ i = 2 * p + 1 ∨ i = 2 * p + 2 := by omega

variable (le : α → α → Bool)

theorem pickChild_eq (v : Array α) (pos : Nat) :
    pickChild le v pos =
      if 2 * pos + 1 < v.size then
        if 2 * pos + 2 < v.size then
          if le v[2 * pos + 2]! v[2 * pos + 1]! then some (2 * pos + 2) else some (2 * pos + 1)
        else some (2 * pos + 1)
      else none := rfl

theorem pickChild_none (v : Array α) (pos : Nat) (h : pickChild le v pos = none) :
    ∀ i, 0 < i → i < v.size → (i - 1) / 2 ≠ pos := by
  intro i h0 hi hp
  rw [pickChild_eq] at h
  by_cases h1 : 2 * pos + 1 < v.size
  · rw [if_pos h1] at h
    split at h
    · split at h <;> cases h
    · cases h
  · rcases (parent_iff h0).mp hp with rfl | rfl <;> omega

theorem pickChild_some (v : Array α) (pos c : Nat) (h : pickChild le v pos = some c) :
    0 < c ∧ c < v.size ∧ (c - 1) / 2 = pos := by
  rw [pickChild_eq] at h
  by_cases h1 : 2 * pos + 1 < v.size
  · rw [if_pos h1] at h
    have e1 : (2 * pos + 1 - 1) / 2 = pos := (parent_iff (Nat.succ_pos _)).mpr (Or.inl rfl)
    by_cases h2 : 2 * pos + 2 < v.size
    · rw [if_pos h2] at h
      have e2 : (2 * pos + 2 - 1) / 2 = pos := (parent_iff (Nat.succ_pos _)).mpr (Or.inr rfl)
      split at h <;> cases h
      · exact ⟨Nat.succ_pos _, h2, e2⟩
      · exact ⟨Nat.succ_pos _, h1, e1⟩
    · rw [if_neg h2] at h
      cases h
      exact ⟨Nat.succ_pos _, h1, e1⟩
  · rw [if_neg h1] at h
    cases h

theorem pickChild_le (htot : ∀ a b, le a b = true ∨ le b a = true) (v : Array α) (pos c : Nat)
    (h : pickChild le v pos = some c) :
    ∀ i, 0 < i → i < v.size → (i - 1) / 2 = pos → le v[c]! v[i]! = true := by
  intro i hi0 hi hpar
  have hrefl : ∀ a, le a a = true := fun a => (htot a a).elim id id
  have hcases := (parent_iff hi0).mp hpar
  rw [pickChild_eq] at h
  by_cases h1 : 2 * pos + 1 < v.size
  · rw [if_pos h1] at h
    by_cases h2 : 2 * pos + 2 < v.size
    · rw [if_pos h2] at h
      split at h
      · next hle =>
        cases h
        rcases hcases with rfl | rfl
        · exact hle
        · exact hrefl _
      · next hnle =>
        cases h
        rcases hcases with rfl | rfl
        · exact hrefl _
        · exact (htot _ _).resolve_left hnle
    · rw [if_neg h2] at h
      cases h
      rcases hcases with rfl | rfl
      · exact hrefl _
      · exact absurd hi h2
  · rw [if_neg h1] at h
    cases h

theorem siftup_succ (v : Array α) (pos : Nat) (item : α) (fuel : Nat) :
    siftup le v pos item (fuel + 1) =
      if pos > 0 then
        if le v[(pos - 1) / 2]! item then v.setIfInBounds pos item
        else siftup le (v.setIfInBounds pos v[(pos - 1) / 2]!) ((pos - 1) / 2) item fuel
      else v.setIfInBounds pos item := rfl

theorem push_eq (v : Array α) (x : α) :
    push le v x = siftup le (v.push x) v.size x (v.size + 1) := by
  show siftup le (v.push x) ((v.push x).size - 1) x (v.push x).size = _
  rw [Array.size_push, Nat.add_sub_cancel]

theorem pop_eq (v : Array α) :
    pop le v = if v.size < 1 then v else
      if v.pop.size > 0 then siftdown le v.pop 0 v[v.size - 1]! v.pop.size else v.pop := rfl

@[simp] theorem siftdown_size (v : Array α) (pos : Nat) (item : α) (fuel : Nat) :
    (siftdown le v pos item fuel).size = v.size := by
  induction fuel generalizing v pos with
  | zero => exact Array.size_setIfInBounds
  | succ n ih =>
    unfold siftdown
    split
    · exact Array.size_setIfInBounds
    · split
      · exact Array.size_setIfInBounds
      · rw [ih, Array.size_setIfInBounds]

@[simp] theorem siftup_size (v : Array α) (pos : Nat) (item : α) (fuel : Nat) :
    (siftup le v pos item fuel).size = v.size := by
  induction fuel generalizing v pos with
  | zero => exact Array.size_setIfInBounds
  | succ n ih =>
    rw [siftup_succ]
    split
    · split
      · exact Array.size_setIfInBounds
      · rw [ih, Array.size_setIfInBounds]
    · exact Array.size_setIfInBounds

theorem push_size (le : α → α → Bool) (v : Array α) (x : α) :
    (push le v x).size = v.size + 1 := by
  rw [push_eq, siftup_size, Array.size_push]

theorem replace_size (v : Array α) (x : α) :
    (replace le v x).size = v.size := by
  unfold replace
  split
  · rfl
  · exact siftdown_size ..

theorem pop_size (v : Array α) :
    (pop le v).size = v.size - 1 := by
  rw [pop_eq]
  split
  · omega
  · split
    · rw [siftdown_size, Array.size_pop]
    · exact Array.size_pop

theorem heapify_size (le : α → α → Bool) (v : Array α) :
    (heapify le v).size = v.size := by
  unfold heapify
  generalize (List.range (v.size / 2)).reverse = l
  induction l generalizing v with
  | nil => rfl
  | cons a l ih => rw [List.foldl_cons, ih, siftdown_size]

theorem list_perm_set (l : List α) (p : Nat) (x : α) (hp : p < l.length) :
    (l[p]! :: l.set p x).Perm (x :: l) := by
  induction l generalizing p with
  | nil => exact absurd hp (Nat.not_lt_zero p)
  | cons a l ih =>
    cases p with
    | zero => exact List.Perm.swap _ _ _
    | succ p =>
      have e : (a :: l)[p + 1]! = l[p]! := by simp only [getElem!_def, List.getElem?_cons_succ]
      rw [List.set_cons_succ, e]
      exact (List.Perm.swap _ _ _).trans (((ih p (Nat.lt_of_succ_lt_succ hp)).cons a).trans (List.Perm.swap _ _ _))

theorem perm_set (v : Array α) (p : Nat) (x : α) (hp : p < v.size) :
    (v[p]! :: (v.setIfInBounds p x).toList).Perm (x :: v.toList) := by
  have := list_perm_set v.toList p x hp
  rwa [Array.toList_setIfInBounds, ← Array.getElem!_toList] at *

/-- one step of either sift loop: `v[j]` is copied into the hole `pos`, and `j` is the new hole -/
theorem perm_move {v : Array α} {pos j : Nat} {item : α} {s : List α} (hp : pos < v.size) (hne : j ≠ pos)
    (ih : ((v.setIfInBounds pos v[j]!)[j]! :: s).Perm (item :: (v.setIfInBounds pos v[j]!).toList)) :
    (v[pos]! :: s).Perm (item :: v.toList) := by
  rw [get_set_ne v pos j _ hne] at ih
  have h2 : (v[j]! :: v[pos]! :: s).Perm (v[j]! :: item :: v.toList) :=
    (List.Perm.swap _ _ _).trans ((ih.cons v[pos]!).trans
      ((List.Perm.swap _ _ _).trans (((perm_set v pos v[j]! hp).cons item).trans (List.Perm.swap _ _ _))))
  exact h2.cons_inv

theorem siftdown_perm (v : Array α) (pos : Nat) (item : α) (fuel : Nat)
    (hp : pos < v.size) :
    (v[pos]! :: (siftdown le v pos item fuel).toList).Perm (item :: v.toList) := by
  induction fuel generalizing v pos with
  | zero => exact perm_set v pos item hp
  | succ n ih =>
    unfold siftdown
    split
    · exact perm_set v pos item hp
    · next c hc =>
      split
      · exact perm_set v pos item hp
      · obtain ⟨hc0, hcs, hcp⟩ := pickChild_some le v pos c hc
        exact perm_move hp (Nat.ne_of_gt (lt_of_parent hc0 hcp)) (ih _ c (by rw [Array.size_setIfInBounds]; exact hcs))

theorem siftup_perm (v : Array α) (pos : Nat) (item : α) (fuel : Nat)
    (hp : pos < v.size) :
    (v[pos]! :: (siftup le v pos item fuel).toList).Perm (item :: v.toList) := by
  induction fuel generalizing v pos with
  | zero => exact perm_set v pos item hp
  | succ n ih =>
    rw [siftup_succ]
    split
    · next hp0 =>
      split
      · exact perm_set v pos item hp
      · exact perm_move hp (Nat.ne_of_lt (parent_lt hp0))
          (ih _ _ (by rw [Array.size_setIfInBounds]; exact Nat.lt_trans (parent_lt hp0) hp))
    · exact perm_set v pos item hp

theorem push_perm (v : Array α) (x : α) :
    (push le v x).toList.Perm (x :: v.toList) := by
  have h := siftup_perm le (v.push x) v.size x (v.size + 1) (by rw [Array.size_push]; omega)
  rw [get_push_eq] at h
  rw [push_eq]
  refine h.cons_inv.trans ?_
  rw [Array.toList_push]
  exact List.perm_append_singleton x v.toList

theorem replace_perm (v : Array α) (x : α) (h : 0 < v.size) :
    (v[0]! :: (replace le v x).toList).Perm (x :: v.toList) := by
  unfold replace
  rw [if_neg (by omega)]
  exact siftdown_perm le v 0 x v.size h

theorem replace_perm_tail (v : Array α) (x : α) (h : 0 < v.size) :
    (replace le v x).toList.Perm (x :: v.toList.tail) := by
  have h1 := replace_perm le v x h
  rw [toList_eq_head_tail v h] at h1
  rw [toList_eq_head_tail v h]
  exact (h1.trans (List.Perm.swap _ _ _)).cons_inv

theorem toList_pop_snoc (v : Array α) (h : 0 < v.size) :
    v.toList = v.pop.toList ++ [v[v.size - 1]!] := by
  have e : v = v.pop.push v[v.size - 1]! := Array.eq_push_pop_back!_of_size_ne_zero (by omega)
  conv => lhs; rw [e]
  exact Array.toList_push

theorem pop_perm (v : Array α) (h : 0 < v.size) :
    (v[0]! :: (pop le v).toList).Perm v.toList := by
  have hv := toList_pop_snoc v h
  rw [pop_eq, if_neg (by omega)]
  split
  · next hsz =>
    have h1 := siftdown_perm le v.pop 0 v[v.size - 1]! v.pop.size hsz
    rw [get_pop v 0 (by rw [Array.size_pop] at hsz; exact hsz)] at h1
    rw [hv]
    exact h1.trans (List.perm_append_singleton _ _).symm
  · next hsz =>
    have h2 : v.pop = #[] := Array.eq_empty_of_size_eq_zero (by omega)
    rw [toList_eq_head_tail v h, hv, h2]
    rfl

theorem pop_perm_tail (v : Array α) (h : 0 < v.size) : (pop le v).toList.Perm v.toList.tail :=
  (toList_eq_head_tail v h ▸ pop_perm le v h : (v[0]! :: (pop le v).toList).Perm (v[0]! :: v.toList.tail)).cons_inv

theorem heapify_perm (v : Array α) :
    (heapify le v).toList.Perm v.toList := by
  unfold heapify
  have hl : ∀ i ∈ (List.range (v.size / 2)).reverse, i < v.size := by
    intro i hi
    rw [List.mem_reverse, List.mem_range] at hi
    omega
  generalize (List.range (v.size / 2)).reverse = l at hl
  induction l generalizing v with
  | nil => exact List.Perm.refl _
  | cons a l ih =>
    rw [List.foldl_cons]
    refine (ih _ fun i hi => ?_).trans (siftdown_perm le v a v[a]! v.size (hl a List.mem_cons_self)).cons_inv
    rw [siftdown_size]
    exact hl i (List.mem_cons_of_mem _ hi)

theorem root_min (htot : ∀ a b, le a b = true ∨ le b a = true)
    (htrans : ∀ a b c, le a b = true → le b c = true → le a c = true)
    (v : Array α) (hv : IsHeap le v) : ∀ i, i < v.size → le v[0]! v[i]! = true := by
  intro i
  induction i using Nat.strongRecOn with
  | _ i ih =>
    intro hi
    cases i with
    | zero => exact (htot _ _).elim id id
    | succ j =>
      have hlt := parent_lt (Nat.succ_pos j)
      exact htrans _ _ _ (ih _ hlt (Nat.lt_trans hlt hi)) (hv (j + 1) (Nat.succ_pos j) hi)

def HeapFrom (le : α → α → Bool) (k : Nat) (v : Array α) : Prop :=
  ∀ i, 0 < i → i < v.size → k ≤ (i - 1) / 2 → le v[(i-1)/2]! v[i]! = true

theorem heapFrom_zero (v : Array α) : HeapFrom le 0 v ↔ IsHeap le v :=
  ⟨fun h i h0 hi => h i h0 hi (Nat.zero_le _), fun h i h0 hi _ => h i h0 hi⟩

variable {le}

/-- `v` with a hole at `pos` (its content is not looked at).  Of the edges with parent index ≥ `k`, those not touching
    the hole are ordered, and the hole's parent is ≤ the hole's children. -/
structure Hole (le : α → α → Bool) (k : Nat) (v : Array α) (pos : Nat) : Prop where
  hpos : pos < v.size
  edges : ∀ i, 0 < i → i < v.size → k ≤ (i - 1) / 2 → (i - 1) / 2 ≠ pos → i ≠ pos →
    le v[(i-1)/2]! v[i]! = true
  grand : ∀ i, 0 < i → i < v.size → (i - 1) / 2 = pos → 0 < pos → k ≤ (pos - 1) / 2 →
    le v[(pos-1)/2]! v[i]! = true

theorem Hole.of_heapFrom {k : Nat} {v : Array α} (hv : HeapFrom le (k + 1) v)
    (hk : k < v.size) : Hole le k v k :=
  ⟨hk, fun i h0 hi hki hne _ => hv i h0 hi (Nat.lt_of_le_of_ne hki (Ne.symm hne)),
    fun _ _ _ _ h1 h2 => absurd (parent_lt h1) (Nat.not_lt.mpr h2)⟩

theorem Hole.fill {k : Nat} {v : Array α} {pos : Nat} (h : Hole le k v pos) {item : α}
    (par : 0 < pos → k ≤ (pos - 1) / 2 → le v[(pos-1)/2]! item = true)
    (ch : ∀ i, 0 < i → i < v.size → (i - 1) / 2 = pos → le item v[i]! = true) :
    HeapFrom le k (v.setIfInBounds pos item) := by
  intro i h0 hi hki
  rw [Array.size_setIfInBounds] at hi
  by_cases h1 : i = pos
  · subst h1
    rw [get_set_eq v i item hi, get_set_ne v i _ item (Nat.ne_of_lt (parent_lt h0))]
    exact par h0 hki
  · by_cases h2 : (i - 1) / 2 = pos
    · rw [h2, get_set_eq v pos item h.hpos, get_set_ne v pos i item h1]
      exact ch i h0 hi h2
    · rw [get_set_ne v pos i item h1, get_set_ne v pos _ item h2]
      exact h.edges i h0 hi hki h2 h1

theorem Hole.down {k : Nat} {v : Array α} {pos : Nat} (h : Hole le k v pos) (hk : k ≤ pos)
    {c : Nat} (hc0 : 0 < c) (hcs : c < v.size) (hcp : (c - 1) / 2 = pos)
    (hmin : ∀ i, 0 < i → i < v.size → (i - 1) / 2 = pos → le v[c]! v[i]! = true) :
    Hole le k (v.setIfInBounds pos v[c]!) c := by
  have hpos := h.hpos
  have hlt : pos < c := lt_of_parent hc0 hcp
  refine ⟨by rw [Array.size_setIfInBounds]; exact hcs, ?_, ?_⟩
  · intro i h0 hi hki hpc hic
    rw [Array.size_setIfInBounds] at hi
    by_cases h1 : i = pos
    · subst h1
      rw [get_set_eq v i _ hpos, get_set_ne v i _ _ (Nat.ne_of_lt (parent_lt h0))]
      exact h.grand c hc0 hcs hcp h0 hki
    · by_cases h2 : (i - 1) / 2 = pos
      · rw [h2, get_set_eq v pos _ hpos, get_set_ne v pos i _ h1]
        exact hmin i h0 hi h2
      · rw [get_set_ne v pos i _ h1, get_set_ne v pos _ _ h2]
        exact h.edges i h0 hi hki h2 h1
  · intro i h0 hi hpc _ _
    rw [Array.size_setIfInBounds] at hi
    have hci : c < i := lt_of_parent h0 hpc
    have hpi : i ≠ pos := (Nat.ne_of_gt (Nat.lt_trans hlt hci))
    rw [hcp, get_set_eq v pos _ hpos, get_set_ne v pos i _ hpi, ← hpc]
    exact h.edges i h0 hi (hpc ▸ Nat.le_trans hk (Nat.le_of_lt hlt)) (hpc ▸ (Nat.ne_of_gt hlt)) hpi

theorem Hole.up (htrans : ∀ a b c, le a b = true → le b c = true → le a c = true) {v : Array α} {pos : Nat}
    (h : Hole le 0 v pos) (hp0 : 0 < pos) :
    Hole le 0 (v.setIfInBounds pos v[(pos - 1) / 2]!) ((pos - 1) / 2) := by
  have hpos := h.hpos
  have hlt := parent_lt hp0
  refine ⟨by rw [Array.size_setIfInBounds]; exact Nat.lt_trans hlt hpos, ?_, ?_⟩
  · intro i h0 hi _ hpc hic
    rw [Array.size_setIfInBounds] at hi
    have h1 : i ≠ pos := fun e => hpc (e ▸ rfl)
    by_cases h2 : (i - 1) / 2 = pos
    · rw [h2, get_set_eq v pos _ hpos, get_set_ne v pos i _ h1]
      exact h.grand i h0 hi h2 hp0 (Nat.zero_le _)
    · rw [get_set_ne v pos i _ h1, get_set_ne v pos _ _ h2]
      exact h.edges i h0 hi (Nat.zero_le _) h2 h1
  · intro i h0 hi hpc hpp0 _
    rw [Array.size_setIfInBounds] at hi
    have hlt2 := Nat.lt_trans (parent_lt hpp0) hlt
    have hgp := h.edges _ hpp0 (Nat.lt_trans hlt hpos) (Nat.zero_le _) (Nat.ne_of_lt hlt2) (Nat.ne_of_lt hlt)
    rw [get_set_ne v pos _ _ (Nat.ne_of_lt hlt2)]
    by_cases h1 : i = pos
    · rw [h1, get_set_eq v pos _ hpos]
      exact hgp
    · rw [get_set_ne v pos i _ h1]
      have := h.edges i h0 hi (Nat.zero_le _) (hpc ▸ (Nat.ne_of_lt hlt)) h1
      rw [hpc] at this
      exact htrans _ _ _ hgp this

variable (le) (htot : ∀ a b, le a b = true ∨ le b a = true)
  (htrans : ∀ a b c, le a b = true → le b c = true → le a c = true)
include htot htrans

theorem siftdown_heapFrom (k : Nat) (v : Array α) (pos : Nat) (item : α) (fuel : Nat)
    (h : Hole le k v pos) (hk : k ≤ pos)
    (par : 0 < pos → k ≤ (pos - 1) / 2 → le v[(pos-1)/2]! item = true) (hfuel : v.size ≤ pos + fuel) :
    HeapFrom le k (siftdown le v pos item fuel) := by
  induction fuel generalizing v pos with
  | zero => have := h.hpos; omega
  | succ n ih =>
    unfold siftdown
    split
    · next hnone => exact h.fill par fun i h0 hi hp => absurd hp (pickChild_none le v pos hnone i h0 hi)
    · next c hc =>
      obtain ⟨hc0, hcs, hcp⟩ := pickChild_some le v pos c hc
      have hcle := pickChild_le le htot v pos c hc
      split
      · next hle => exact h.fill par fun i h0 hi hp => htrans _ _ _ hle (hcle i h0 hi hp)
      · next hnle =>
        have hlt := lt_of_parent hc0 hcp
        refine ih _ c (h.down hk hc0 hcs hcp hcle) (Nat.le_trans hk (Nat.le_of_lt hlt)) (fun _ _ => ?_)
          (by rw [Array.size_setIfInBounds]; omega)
        rw [hcp, get_set_eq v pos _ h.hpos]
        exact (htot _ _).resolve_left hnle

/-- the one fact behind `replace`, `pop` and `heapify` -/
theorem siftdown_top {k : Nat} {v : Array α} (hv : HeapFrom le (k + 1) v) (hk : k < v.size) (item : α) :
    HeapFrom le k (siftdown le v k item v.size) :=
  siftdown_heapFrom le htot htrans k v k item v.size (Hole.of_heapFrom hv hk) (Nat.le_refl k)
    (fun h0 h1 => absurd (parent_lt h0) (Nat.not_lt.mpr h1)) (Nat.le_add_left _ _)

theorem replace_isHeap (v : Array α) (x : α) (hv : IsHeap le v) : IsHeap le (replace le v x) := by
  unfold replace
  split
  · exact hv
  · exact (heapFrom_zero le _).mp (siftdown_top le htot htrans (fun i h0 hi _ => hv i h0 hi) (Nat.not_lt.mp ‹_›) x)

theorem pop_isHeap (v : Array α) (hv : IsHeap le v) : IsHeap le (pop le v) := by
  have hpop : IsHeap le v.pop := by
    intro i h0 hi
    rw [Array.size_pop] at hi
    rw [get_pop v i hi, get_pop v _ (Nat.lt_trans (parent_lt h0) hi)]
    exact hv i h0 (Nat.lt_of_lt_of_le hi (Nat.sub_le _ _))
  rw [pop_eq]
  split
  · exact hv
  · split
    · next hsz =>
      exact (heapFrom_zero le _).mp (siftdown_top le htot htrans (fun i h0 hi _ => hpop i h0 hi) hsz _)
    · exact hpop

theorem foldl_siftdown_isHeap (n : Nat) (v : Array α) (hn : n ≤ v.size) (hv : HeapFrom le n v) :
    IsHeap le ((List.range n).reverse.foldl (fun v i => siftdown le v i v[i]! v.size) v) := by
  induction n generalizing v with
  | zero => exact (heapFrom_zero le v).mp hv
  | succ n ih =>
    rw [List.range_succ, List.reverse_append, List.reverse_singleton, List.singleton_append, List.foldl_cons]
    exact ih _ (by rw [siftdown_size]; omega) (siftdown_top le htot htrans hv hn _)

theorem heapify_isHeap (v : Array α) : IsHeap le (heapify le v) :=
  foldl_siftdown_isHeap le htot htrans _ v (Nat.div_le_self _ _) fun i h0 hi hk => by omega

theorem siftup_isHeap (v : Array α) (pos : Nat) (item : α) (fuel : Nat) (h : Hole le 0 v pos)
    (ch : ∀ i, 0 < i → i < v.size → (i - 1) / 2 = pos → le item v[i]! = true) (hfuel : pos ≤ fuel) :
    IsHeap le (siftup le v pos item fuel) := by
  rw [← heapFrom_zero]
  induction fuel generalizing v pos with
  | zero => exact h.fill (fun h0 => absurd h0 (Nat.not_lt.mpr hfuel)) ch
  | succ n ih =>
    rw [siftup_succ]
    split
    · next hp0 =>
      split
      · next hle => exact h.fill (fun _ _ => hle) ch
      · next hnle =>
        have hip : le item v[(pos - 1) / 2]! = true := (htot _ _).resolve_right hnle
        refine ih _ _ (h.up htrans hp0) (fun i h0 hi hpc => ?_)
          (Nat.le_of_lt_succ (Nat.lt_of_lt_of_le (parent_lt hp0) hfuel))
        rw [Array.size_setIfInBounds] at hi
        by_cases h1 : i = pos
        · rw [h1, get_set_eq v pos _ h.hpos]
          exact hip
        · rw [get_set_ne v pos i _ h1]
          have := h.edges i h0 hi (Nat.zero_le _) (hpc ▸ (Nat.ne_of_lt (parent_lt hp0))) h1
          rw [hpc] at this
          exact htrans _ _ _ hip this
    · next hp0 => exact h.fill (fun h0 => absurd h0 hp0) ch

theorem push_isHeap (v : Array α) (x : α) (hv : IsHeap le v) : IsHeap le (push le v x) := by
  rw [push_eq]
  refine siftup_isHeap le htot htrans _ _ x _ ⟨by rw [Array.size_push]; omega, ?_, ?_⟩ ?_ (by omega)
  · intro i h0 hi _ _ hne
    rw [Array.size_push] at hi
    have hi' : i < v.size := by omega
    rw [get_push_lt v i x hi', get_push_lt v _ x (Nat.lt_trans (parent_lt h0) hi')]
    exact hv i h0 hi'
  · intro i h0 hi hp
    rw [Array.size_push] at hi
    omega
  · intro i h0 hi hp
    rw [Array.size_push] at hi
    omega

end Mtbl.Heap
