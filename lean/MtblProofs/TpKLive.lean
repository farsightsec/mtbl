import MtblProofs.TpKUnord
/-
  The k-client pool machine: what every sleeper's predicate looks like.  A handler asleep on its queue has an empty queue and
  is still owed a result or the finish flag (`CLAll`); a worker asleep at its loop head has nothing to do (`Strict`); a caller
  asleep in `threadpool_next` sees the pool exhausted and the owner asleep in `threadpool_destroy` sees an empty idle list and
  a non-zero count (`Phs`).  The bundle `Live` of all invariants and the no-deadlock theorem are in TpKDead.lean.
-/
namespace TpK

/-! ### facts about one client's own record -/
def closing (pc : CPc) : Bool := match pc with | .joinH | .done => true | _ => false

structure CL (o : Bool) (cl : Client) : Prop where
  deqSleep : cl.hpc = .deq true → cl.queue = [] ∧ ¬ (cl.finished = true ∧ cl.nthreads = 0)
  hstart : preH cl.pc = false → cl.hstarted = true
  idleRec : cl.pc = .idle → cl.queue = [] ∧ cl.hpc = .deq false ∧ cl.hstarted = false ∧ cl.finished = false ∧ cl.nthreads = 0
  preRec : preH cl.pc = true → cl.hstarted = false ∧ cl.hpc = .deq false ∧ cl.queue = []
  finFlag : closing cl.pc = true → cl.finished = true
  ordN : o = true → cl.nthreads = (cl.queue.length : Int)

def CLAll (s : St) : Prop := ∀ c : Nat, CL s.ordered s.cl[c]!

theorem CL_new (o : Bool) : CL o ({} : Client) :=
  ⟨by simp, by simp [preH], fun _ => ⟨rfl, rfl, rfl, rfl, rfl⟩, fun _ => ⟨rfl, rfl, rfl⟩, by simp [closing], fun _ => by simp⟩

/-- a sleeping handler is woken: only the fact about `deq true` reads the new `hpc`, and the records of clients that are
    not started have `hpc = deq false` -/
theorem CL.wake {o : Bool} {cl : Client} (h : CL o cl) (p : HPc) (hp : p ≠ .deq true) (hs : cl.hpc ≠ .deq false) :
    CL o { cl with hpc := p } :=
  ⟨fun hx => absurd hx hp, h.hstart, fun hx => absurd (h.idleRec hx).2.1 hs, fun hx => absurd (h.preRec hx).2.1 hs,
    h.finFlag, h.ordN⟩

theorem CL_wakeH {o : Bool} {cl : Client} (t : Nat) (h : CL o cl) : CL o (wakeH t cl) := by
  rcases wakeH_cases t cl with ⟨_, e⟩ | ⟨hw, e⟩ <;> rw [e]
  · exact h
  · exact h.wake _ (by simp) (by simp [hw])

theorem clall_congr {s s' : St} (h : CLAll s) (e1 : s'.ordered = s.ordered := by rfl) (e2 : s'.cl = s.cl := by rfl) :
    CLAll s' := by
  intro c; rw [e1, e2]; exact h c

theorem clall_setCl {s S0 : St} (c : Nat) (f : Client → Client) (h : CLAll s) (hf : CL s.ordered (f s.cl[c]!))
    (e1 : S0.ordered = s.ordered := by rfl) (e2 : S0.cl = s.cl := by rfl) : CLAll (setCl S0 c f) := by
  show ∀ c' : Nat, CL S0.ordered (S0.cl.modify c f)[c']!
  rw [e1, e2]; exact forall_get_modify _ c f h hf

theorem clall_signalThr {s : St} (t : Nat) (h : CLAll s) : CLAll (signalThr s t) :=
  forall_get_map _ (wakeH t) (CL_new _) fun c => CL_wakeH t (h c)

theorem CL_wakeDeq {o : Bool} {cl : Client}
    (h : (cl.hpc ≠ .deq true → CL o cl))
    (h' : cl.hpc = .deq true → CL o { cl with hpc := .deq false }) : CL o (wakeDeq cl) := by
  unfold wakeDeq
  split
  · rename_i hh; exact h' hh
  · rename_i hh; exact h (fun e => hh e)

theorem clall_signalRq {s : St} (c : Nat) (h : CLAll s) : CLAll (signalRq s c) := by
  have hc := h c
  exact clall_setCl c _ h (CL_wakeDeq (fun _ => hc) fun hh => hc.wake _ (by simp) (by simp [hh]))

/-- the caller moves on to a program point after the creation of its handler -/
theorem CL.setPc {o : Bool} {cl : Client} (h : CL o cl) (p : CPc) (hst : cl.hstarted = true) (hpre : preH p = false)
    (hfin : closing p = true → cl.finished = true) : CL o { cl with pc := p } :=
  ⟨h.deqSleep, fun _ => hst, fun hx => (by rw [show p = .idle from hx] at hpre; cases hpre),
    fun hx => (by rw [show preH p = true from hx] at hpre; cases hpre), hfin, h.ordN⟩

theorem CL.handler {o : Bool} {cl cl' : Client} (h : CL o cl) (hst : cl.hstarted = true)
    (hd : cl'.hpc = .deq true → cl'.queue = [] ∧ ¬ (cl'.finished = true ∧ cl'.nthreads = 0))
    (hn : o = true → cl'.nthreads = (cl'.queue.length : Int)) (e1 : cl'.pc = cl.pc := by rfl)
    (e2 : cl'.hstarted = cl.hstarted := by rfl) (e3 : cl'.finished = cl.finished := by rfl) : CL o cl' := by
  have hnp : preH cl.pc = false := by
    cases hx : preH cl.pc
    · rfl
    · have := (h.preRec hx).1; rw [hst] at this; cases this
  refine ⟨hd, fun _ => by rw [e2]; exact hst, fun hx => ?_, fun hx => ?_, fun hx => ?_, hn⟩
  · rw [e1] at hx; rw [hx] at hnp; cases hnp
  · rw [e1, hnp] at hx; cases hx
  · rw [e1] at hx; rw [e3]; exact h.finFlag hx

theorem clall_signalPool {s : St} (k : Nat) (h : CLAll s) : CLAll (signalPool s k) := by
  rcases signalPool_cases s k with ⟨_, e⟩ | ⟨_, e⟩ | ⟨c, _, hp, e⟩ <;> rw [e]
  · exact h
  · exact h
  · exact clall_setCl c _ h
      ((h c).setPc _ ((h c).hstart (by simp [hp, preH])) rfl (fun hx => by cases hx))

theorem modify_modify' {α : Type} (a : Array α) (t : Nat) (f g : α → α) :
    (a.modify t f).modify t g = a.modify t (fun x => g (f x)) := by
  apply Array.ext
  · simp
  · intro i h1 h2
    simp [Array.getElem_modify]; grind

theorem signalRq_setCl (s : St) (c : Nat) (f : Client → Client) :
    signalRq (setCl s c f) c = setCl s c (fun cl => wakeDeq (f cl)) := by
  show ({ (setCl s c f) with cl := (s.cl.modify c f).modify c _ } : St) = _
  rw [modify_modify']
  rfl

theorem clall_step {s s' : St} {l : Lbl} (hS : Sh s) (hP : PhAll s) (hF : WF2 s) (h : CLAll s) (hs : step s l = some s') :
    CLAll s' := by
  cases Step.of_step hs with
  | @spawn i =>
    have hnew : CL s.ordered ({ pc := .start } : Client) :=
      ⟨by simp, by simp [preH], by simp, fun _ => ⟨rfl, rfl, rfl⟩, by simp [closing], fun _ => by simp⟩
    exact clall_congr (s := setCl s i fun _ => { pc := .start }) (clall_setCl i _ h hnew)
  | joinC | destroyDone | destroySleep | destroyTake | joinW | spOwner | wGo | wSleep | wExit | wRunUnord | wRunOrd
  | spWorker => exact clall_congr h
  | kill | doneOrd => exact clall_signalThr _ (clall_congr h)
  | @start c _ _ hp =>
    have hpre := (h c).preRec (by simp [hp, preH])
    exact clall_setCl c _ h
      ⟨by simp [hpre.2.1], by simp [preH], by simp, fun _ => hpre, by simp [closing], (h c).ordN⟩
  | @mkH c =>
    exact clall_setCl c _ h ⟨(h c).deqSleep, fun _ => rfl, by simp, by simp [preH], by simp [closing], (h c).ordN⟩
  | @nextDone c _ _ hp | @nextTake c _ _ _ _ hp | @nextSleep c _ _ hp | @nextGrow c _ _ hp | @create c _ _ hp
  | @spClient c _ hp =>
    exact clall_setCl c _ h
      ((h c).setPc _ ((h c).hstart (by simp [hp, preH])) rfl (fun hx => by cases hx))
  | @assign c _ _ _ hp =>
    exact clall_signalThr _ (clall_setCl c _ h
      ((h c).setPc _ ((h c).hstart (by simp [hp, preH])) rfl (fun hx => by cases hx)))
  | @joinH c _ _ hp =>
    exact clall_setCl c _ h
      ((h c).setPc _ ((h c).hstart (by simp [hp, preH])) rfl (fun _ => (h c).finFlag (by simp [hp, closing])))
  | @enqueueOrd c _ t _ hp ho =>
    have hc := h c
    have hst := hc.hstart (by simp [hp, preH])
    have hn := hc.ordN ho
    rw [signalRq_setCl]
    refine clall_setCl c _ h (CL_wakeDeq (fun hne => ?_) fun _ => ?_)
    · refine ⟨fun hx => absurd hx hne, fun _ => hst, by simp, by simp [preH], by simp [closing], fun _ => ?_⟩
      simp only [List.length_append, List.length_cons, List.length_nil]; push_cast; omega
    · refine ⟨by simp, fun _ => hst, by simp, by simp [preH], by simp [closing], fun _ => ?_⟩
      simp only [List.length_append, List.length_cons, List.length_nil]; push_cast; omega
  | @enqueueUnord c _ t _ hp ho =>
    have hc := h c
    have hnf : s.cl[c]!.finished = false := by
      cases hf : s.cl[c]!.finished
      · rfl
      · have := (hP c).flag hf; rw [hp] at this; rcases this with e | e <;> cases e
    refine clall_setCl c _ h
      ⟨fun hx => ⟨(hc.deqSleep hx).1, by simp [hnf]⟩, fun _ => hc.hstart (by simp [hp, preH]), by simp, by simp [preH],
        by simp [closing], fun hx => by rw [ho] at hx; cases hx⟩
  | @finish c _ _ hp =>
    have hc := h c
    have hst := hc.hstart (by simp [hp, preH])
    rw [signalRq_setCl]
    refine clall_setCl c _ h (CL_wakeDeq (fun hne => ?_) fun _ => ?_)
    · exact ⟨fun hx => absurd hx hne, fun _ => hst, by simp, by simp [preH], fun _ => rfl, hc.ordN⟩
    · exact ⟨by simp, fun _ => hst, by simp, by simp [preH], fun _ => rfl, hc.ordN⟩
  | @deqTake c _ t rest _ hst _ hq =>
    refine clall_setCl c _ h ((h c).handler hst (by simp) (fun ho => ?_))
    have := (h c).ordN ho
    rw [hq] at this
    simp only [List.length_cons] at this ⊢
    push_cast at this ⊢; omega
  | @deqExit c _ _ hst | @waitSleep c _ _ _ hst | @callback c _ _ _ hst =>
    exact clall_setCl c _ h ((h c).handler hst (by simp) (h c).ordN)
  | @deqSleep c _ _ hst _ hq hf =>
    exact clall_setCl c _ h ((h c).handler hst (fun _ => ⟨hq, hf⟩) (h c).ordN)
  | @waitTake c _ _ _ hst =>
    exact clall_setCl c _ h ((h c).handler hst (by simp) (h c).ordN)
  | @giveBack c _ _ _ _ hst =>
    exact clall_signalPool _ (clall_setCl c _ h ((h c).handler hst (by simp) (h c).ordN))
  | @spDeq c _ hp | @spWait c _ _ hp =>
    exact clall_setCl c _ h ((h c).wake _ (by simp) (by simp [hp]))
  | @selfEnq t _ c _ hp =>
    -- the worker enters c's queue and wakes c's handler
    have hc := h c
    have hno := (hS.selfEnq_rq hp).2.2
    obtain ⟨_, hpre⟩ := hF t c (Or.inr hp)
    have hni : s.cl[c]!.pc ≠ .idle := by intro e; rw [e] at hpre; cases hpre
    rw [signalRq_setCl]
    refine clall_setCl c _ h (CL_wakeDeq (fun hne => ?_) fun _ => ?_)
    · exact ⟨fun hx => absurd hx hne, hc.hstart, fun hx => absurd hx hni, (fun hx => by rw [hpre] at hx; cases hx), hc.finFlag,
        fun hx => by rw [hno] at hx; cases hx⟩
    · exact ⟨by simp, hc.hstart, fun hx => absurd hx hni, (fun hx => by rw [hpre] at hx; cases hx), hc.finFlag,
        fun hx => by rw [hno] at hx; cases hx⟩

/-! ### a worker asleep at its loop head has nothing to do -/
def Strict (s : St) : Prop := ∀ t : Nat, s.thr[t]!.pc = .top true → s.thr[t]!.running = false

theorem strict_congr {s s' : St} (h : Strict s) (e : s'.thr = s.thr := by rfl) : Strict s' := by
  intro t hp; rw [e] at hp ⊢; exact h t hp

theorem strict_setThr {s : St} (t : Nat) (g : Thr → Thr) (h : Strict s)
    (hg : (g s.thr[t]!).pc = .top true → (g s.thr[t]!).running = false) : Strict (setThr s t g) := by
  intro u hp
  rw [thr_setThr] at hp ⊢
  split at hp
  · rename_i hh; rw [if_pos hh]; rw [hh.1] at hp ⊢; exact hg hp
  · rename_i hh; rw [if_neg hh]; exact h u hp

theorem strict_push {s s' : St} (h : Strict s) (e : s'.thr = s.thr.push {} := by rfl) : Strict s' := by
  intro u hp
  rw [e, get_push] at hp ⊢
  split at hp
  · cases hp
  · rename_i hh; rw [if_neg hh]; exact h u hp

/-- whatever is written into thread t's record under its lock, the signal that follows leaves t awake -/
theorem strict_signal {s X : St} (t : Nat) (h : Strict s) (e : ∀ u : Nat, u ≠ t → X.thr[u]! = s.thr[u]!) :
    Strict (signalThr X t) := by
  intro u hp
  rw [thr_signalThr] at hp ⊢
  split at hp
  · exfalso
    rw [(wakeW_spec X.thr[u]!).2.2.2.2] at hp
    split at hp
    · cases hp
    · rename_i hne; exact hne hp
  · rename_i hh
    rw [if_neg hh]
    by_cases hut : u = t
    · -- t is not a thread record: the default record is awake
      subst hut
      rw [get_oob X.thr u (fun x => hh ⟨rfl, x⟩)] at hp; cases hp
    · rw [e u hut] at hp ⊢; exact h u hp

theorem strict_step {s s' : St} {l : Lbl} (h : Strict s) (hs : step s l = some s') : Strict s' := by
  cases Step.of_step hs with
  | spawn | joinC | destroyDone | destroySleep | destroyTake | joinW | start | mkH | nextDone | nextTake | nextSleep
  | nextGrow | enqueueUnord | joinH | deqTake | deqExit | deqSleep | waitSleep | callback | spOwner
  | spClient | spDeq | spWait => exact strict_congr h
  | enqueueOrd | finish => exact strict_congr h (signalRq_thr _ _)
  | giveBack => exact strict_congr h (signalPool_thr _ _)
  | create => exact strict_push h
  | kill | assign | doneOrd => exact strict_signal _ h (thr_setThr_ne s _ _)
  | waitTake => exact strict_congr (strict_setThr _ (fun th => { th with res := none }) h (h _))
  | wGo | wExit | wRunUnord | wRunOrd | spWorker => exact strict_setThr _ _ h (by simp)
  | wSleep _ _ hr => exact strict_setThr _ _ h (fun _ => hr)
  | selfEnq =>
    exact strict_congr (strict_setThr _ (fun th => { th with pc := .top false }) h (fun hx => by cases hx)) (signalRq_thr _ _)

theorem strict_init (n max njobs : Nat) (o : Bool) : Strict (init n max njobs o) := by
  intro t hx
  have e : (init n max njobs o).thr[t]! = default := by simp [init]
  rw [e] at hx ⊢
  rfl

/-! ### what the sleepers on pool->c have seen, and where the owner is -/
structure Phs (s : St) : Prop where
  nextSleep : ∀ c : Nat, s.cl[c]!.pc = .next true → s.count = s.max
  destroySleep : s.opc = .destroy true → s.idle = [] ∧ s.count ≠ 0
  started : (afterJoin s.opc = true ∨ ∃ i, s.opc = .joinC i) → ∀ c : Nat, c < s.cl.size → s.cl[c]!.pc ≠ .idle
  spawnLt : ∀ j : Nat, s.opc = .spawn j → j < s.cl.size ∧ ∀ c : Nat, c < j → s.cl[c]!.pc ≠ .idle
  joinLt : ∀ i : Nat, s.opc = .joinC i → i < s.cl.size

theorem phs_client {s S0 : St} (c : Nat) (f : Client → Client) (h : Phs s)
    (hidle : S0.opc = .destroy true → S0.idle = [] ∧ S0.count ≠ 0)
    (hni : (f s.cl[c]!).pc ≠ .idle)
    (hnew : (f s.cl[c]!).pc = .next true → S0.count = s.max)
    (hold : ∀ c' : Nat, s.cl[c']!.pc = .next true → S0.count = s.max)
    (e1 : S0.cl = s.cl := by rfl) (e2 : S0.opc = s.opc := by rfl) (e3 : S0.max = s.max := by rfl) : Phs (setCl S0 c f) := by
  have hget : ∀ c' : Nat, (setCl S0 c f).cl[c']!.pc = if c' = c ∧ c < s.cl.size then (f s.cl[c]!).pc else s.cl[c']!.pc := by
    intro c'
    rw [cl_get_setCl, e1]
    split
    · rename_i hh; rw [hh.1]
    · rfl
  have hne : ∀ c' : Nat, s.cl[c']!.pc ≠ .idle → (setCl S0 c f).cl[c']!.pc ≠ .idle := by
    intro c' hx
    rw [hget]; split
    · exact hni
    · exact hx
  refine ⟨fun c' hp => ?_, hidle, fun ho c' hc' => ?_, fun j ho => ?_, fun i ho => ?_⟩
  · rw [hget] at hp
    show S0.count = S0.max
    rw [e3]
    split at hp
    · exact hnew hp
    · exact hold c' hp
  · have ho' : afterJoin s.opc = true ∨ ∃ i, s.opc = .joinC i := by
      have : (setCl S0 c f).opc = s.opc := e2
      rw [this] at ho; exact ho
    have hc'' : c' < s.cl.size := by simpa [e1] using hc'
    exact hne c' (h.started ho' c' hc'')
  · have ho' : s.opc = .spawn j := by rw [← e2]; exact ho
    obtain ⟨a, b⟩ := h.spawnLt j ho'
    exact ⟨by simpa [e1] using a, fun c' hc' => hne c' (b c' hc')⟩
  · have ho' : s.opc = .joinC i := by rw [← e2]; exact ho
    simpa [e1] using h.joinLt i ho'

theorem phs_neutral {s s' : St} (h : Phs s) (e5 : s'.cl.size = s.cl.size) (hcl : ∀ c : Nat, s'.cl[c]!.pc = s.cl[c]!.pc)
    (e1 : s'.opc = s.opc := by rfl) (e2 : s'.max = s.max := by rfl) (e3 : s'.count = s.count := by rfl)
    (e4 : s'.idle = s.idle := by rfl) : Phs s' := by
  refine ⟨fun c hp => ?_, fun ho => ?_, fun ho c hc => ?_, fun j ho => ?_, fun i ho => ?_⟩
  · rw [hcl] at hp; rw [e3, e2]; exact h.nextSleep c hp
  · rw [e1] at ho; rw [e4, e3]; exact h.destroySleep ho
  · rw [e1] at ho; rw [hcl]; exact h.started ho c (by omega)
  · rw [e1] at ho; obtain ⟨a, b⟩ := h.spawnLt j ho
    exact ⟨by omega, fun c hc => by rw [hcl]; exact b c hc⟩
  · rw [e1] at ho; have := h.joinLt i ho; omega

theorem phs_setCl_pc {s S0 : St} (c : Nat) (f : Client → Client) (h : Phs s) (hf : ∀ cl, (f cl).pc = cl.pc)
    (e1 : S0.opc = s.opc := by rfl) (e2 : S0.max = s.max := by rfl) (e3 : S0.count = s.count := by rfl)
    (e4 : S0.idle = s.idle := by rfl) (e5 : S0.cl = s.cl := by rfl) : Phs (setCl S0 c f) := by
  refine phs_neutral h (by simp [e5]) (fun c' => ?_) e1 e2 e3 e4
  rw [cl_get_setCl, e5]; split
  · rename_i hh; rw [hh.1]; exact hf _
  · rfl

theorem phs_signalThr {s : St} (t : Nat) (h : Phs s) : Phs (signalThr s t) :=
  phs_neutral h (by simp) fun c => by
    rw [signalThr_cl, get_map]; split
    · exact wakeH_pc _ _
    · rename_i hc; rw [cl_oob s c hc]

theorem phs_signalRq {s : St} (c : Nat) (h : Phs s) : Phs (signalRq s c) :=
  phs_setCl_pc c _ h fun cl => by split <;> rfl

theorem phs_owner {s s' : St} (h : Phs s) (ho : afterJoin s.opc = true ∨ ∃ i, s.opc = .joinC i)
    (hd : s'.opc = .destroy true → s'.idle = [] ∧ s'.count ≠ 0) (hs : ∀ j, s'.opc ≠ .spawn j) (hj : ∀ i, s'.opc ≠ .joinC i)
    (e1 : s'.cl = s.cl := by rfl) (e2 : s'.max = s.max := by rfl) (e3 : s'.count = s.count := by rfl) : Phs s' :=
  ⟨fun c hp => by rw [e1] at hp; rw [e2, e3]; exact h.nextSleep c hp, hd, fun _ => by rw [e1]; exact h.started ho,
    fun j hx => absurd hx (hs j), fun i hx => absurd hx (hj i)⟩

/-- pthread_cond_signal(&pool->c) after a push onto the idle list (which a sleeping owner, once woken, will see) -/
theorem phs_signalPool {s X : St} (k : Nat) (h : Phs s) (hsz : X.cl.size = s.cl.size)
    (hcl : ∀ c : Nat, X.cl[c]!.pc = s.cl[c]!.pc) (ho : X.opc = s.opc := by rfl) (hm : X.max = s.max := by rfl)
    (hcnt : X.count = s.count := by rfl) : Phs (signalPool X k) := by
  have hnext : ∀ c : Nat, X.cl[c]!.pc = .next true → X.count = X.max := fun c hp => by
    rw [hcl] at hp; rw [hcnt, hm]; exact h.nextSleep c hp
  by_cases hox : X.opc = .destroy true
  · have e : signalPool X k = { X with opc := .destroy false } := by simp only [signalPool, hox]
    rw [e]
    refine ⟨hnext, fun hoo => (by cases hoo), fun _ c hc => ?_, fun j hoo => (by cases hoo), fun i hoo => (by cases hoo)⟩
    show X.cl[c]!.pc ≠ .idle
    rw [hcl]; exact h.started (Or.inl (by rw [← ho, hox]; rfl)) c (by rw [← hsz]; exact hc)
  · have hX : Phs X := by
      refine ⟨hnext, fun hoo => absurd hoo hox, fun hoo c hc => ?_, fun j hoo => ?_, fun i hoo => ?_⟩
      · rw [ho] at hoo; rw [hcl]; exact h.started hoo c (by omega)
      · rw [ho] at hoo; obtain ⟨a, b⟩ := h.spawnLt j hoo
        exact ⟨by omega, fun c hc => by rw [hcl]; exact b c hc⟩
      · rw [ho] at hoo; have := h.joinLt i hoo; omega
    rcases signalPool_cases X k with ⟨h0, _⟩ | ⟨_, e⟩ | ⟨c, _, _, e⟩
    · exact absurd h0 hox
    · rw [e]; exact hX
    · rw [e]; exact phs_client c _ hX hX.destroySleep (by simp) (fun hx => by cases hx) hX.nextSleep

theorem phs_step {s s' : St} {l : Lbl} (hW : Wk s) (h : Phs s) (hs : step s l = some s') : Phs s' := by
  cases Step.of_step hs with
  | @spawn i _ ho =>
    obtain ⟨hlt, hst⟩ := h.spawnLt i ho
    have hget : ∀ c : Nat, (s.cl.modify i fun _ => ({ pc := .start } : Client))[c]!.pc =
        if c = i then .start else s.cl[c]!.pc := by
      intro c; rw [get_modify]; split
      · rename_i hh; rw [if_pos hh.1]
      · rename_i hh; rw [if_neg (fun e => hh ⟨e, hlt⟩)]
    have hni : ∀ c, c < i + 1 → (s.cl.modify i fun _ => ({ pc := .start } : Client))[c]!.pc ≠ .idle := by
      intro c hc
      rw [hget]; split
      · simp
      · exact hst c (by omega)
    have hns : ∀ c : Nat, (s.cl.modify i fun _ => ({ pc := .start } : Client))[c]!.pc = .next true → s.count = s.max := by
      intro c hp
      rw [hget] at hp
      split at hp
      · cases hp
      · exact h.nextSleep c hp
    by_cases hx : i + 1 < s.cl.size
    · rw [if_pos hx]
      refine ⟨hns, fun hoo => (by cases hoo), fun hoo => (by rcases hoo with e | ⟨_, e⟩ <;> cases e), fun j hoo => ?_,
        fun _ hoo => (by cases hoo)⟩
      cases hoo
      exact ⟨by simpa using hx, hni⟩
    · rw [if_neg hx]
      refine ⟨hns, fun hoo => (by cases hoo), fun _ c hc => hni c ?_, fun j hoo => (by cases hoo), fun i' hoo => ?_⟩
      · have : c < s.cl.size := by simpa using hc
        omega
      · cases hoo
        show 0 < (s.cl.modify i _).size
        simp; omega
  | @joinC i _ ho =>
    have hst := h.started (Or.inr ⟨i, ho⟩)
    by_cases hx : i + 1 < s.cl.size
    · rw [if_pos hx]
      exact ⟨h.nextSleep, fun hoo => (by cases hoo), fun _ => hst, fun j hoo => (by cases hoo),
        fun i' hoo => (by cases hoo; exact hx)⟩
    · rw [if_neg hx]
      exact phs_owner h (Or.inr ⟨i, ho⟩) (fun hx => by cases hx) (fun _ hx => by cases hx)
        (fun _ hx => by cases hx)
  | destroyDone ho | destroyTake ho | spOwner ho =>
    exact phs_owner h (Or.inl (by rw [ho]; rfl)) (fun hx => by cases hx) (fun _ hx => by cases hx)
      (fun _ hx => by cases hx)
  | destroySleep ho h0 hi =>
    exact phs_owner h (Or.inl (by rw [ho]; rfl)) (fun _ => ⟨hi, h0⟩) (fun _ hx => by cases hx)
      (fun _ hx => by cases hx)
  | kill ho =>
    exact phs_signalThr _ (phs_owner h (Or.inl (by rw [ho]; rfl)) (fun hx => by cases hx)
      (fun _ hx => by cases hx) (fun _ hx => by cases hx))
  | joinW ho =>
    -- every caller has returned: nobody sleeps in threadpool_next, whatever the count
    have hov := hW.over (by rw [ho]; rfl)
    refine ⟨fun c hp => ?_, fun hoo => (by cases hoo), fun _ => h.started (Or.inl (by rw [ho]; rfl)),
      fun j hoo => (by cases hoo), fun i hoo => (by cases hoo)⟩
    have hp' : s.cl[c]!.pc = .next true := hp
    rcases hov c with e | e <;> (rw [e] at hp'; cases hp')
  | start | mkH | nextDone | enqueueUnord | joinH | spClient =>
    exact phs_client _ _ h h.destroySleep (by simp) (fun hx => by cases hx) h.nextSleep
  | @create c =>
    exact phs_client (S0 := { s with thr := s.thr.push {} }) c _ h h.destroySleep (by simp)
      (fun hx => by cases hx) h.nextSleep
  | @assign c _ t =>
    exact phs_signalThr _ (phs_client (S0 := setThr s t _) c _ h h.destroySleep (by simp)
      (fun hx => by cases hx) h.nextSleep)
  | enqueueOrd | finish =>
    exact phs_signalRq _ (phs_client _ _ h h.destroySleep (by simp) (fun hx => by cases hx) h.nextSleep)
  | @nextTake _ _ _ rest _ _ _ hi =>
    refine phs_client (S0 := { s with idle := rest }) _ _ h (fun hoo => ?_) (by simp) (fun hx => by cases hx)
      h.nextSleep
    have := (h.destroySleep hoo).1
    rw [hi] at this; cases this
  | nextSleep _ _ _ _ hm => exact phs_client _ _ h h.destroySleep (by simp) (fun _ => hm) h.nextSleep
  | nextGrow _ _ _ _ hm =>
    -- the count grows only below the maximum, so nobody sleeps in threadpool_next
    exact phs_client (S0 := { s with count := s.count + 1 }) _ _ h
      (fun hoo => ⟨(h.destroySleep hoo).1, Nat.succ_ne_zero _⟩) (by simp) (fun hx => by cases hx)
      (fun c' hx => absurd (h.nextSleep c' hx) hm)
  | deqTake | deqExit | deqSleep | waitSleep | callback | spDeq | spWait =>
    exact phs_setCl_pc _ _ h (fun _ => rfl)
  | waitTake => exact phs_setCl_pc (S0 := setThr s _ _) _ _ h (fun _ => rfl)
  | giveBack =>
    refine phs_signalPool _ h (by simp) (fun c' => ?_)
    rw [cl_get_setCl]; split
    · rename_i hh; rw [hh.1]
    · rfl
  | wGo | wSleep | wExit | wRunUnord | wRunOrd | spWorker => exact phs_neutral h rfl (fun _ => rfl)
  | selfEnq => exact phs_signalRq _ (phs_setCl_pc (S0 := setThr s _ _) _ _ h (fun _ => rfl))
  | doneOrd => exact phs_signalThr _ (phs_neutral h rfl (fun _ => rfl))
theorem clall_init (n max njobs : Nat) (o : Bool) : CLAll (init n max njobs o) := by
  intro c
  rw [init_cl]; exact CL_new _

theorem phs_init (n max njobs : Nat) (o : Bool) (hn : 1 ≤ n) : Phs (init n max njobs o) := by
  have hpc : ∀ c : Nat, (init n max njobs o).cl[c]!.pc = .idle := fun c => by rw [init_cl]
  refine ⟨fun c hx => ?_, fun hx => ?_, fun hx => ?_, fun j hx => ?_, fun i hx => ?_⟩
  · rw [hpc] at hx; cases hx
  · cases hx
  · rcases hx with hx | ⟨i, hx⟩
    · simp [init, afterJoin] at hx
    · cases hx
  · have : j = 0 := by
      have hx' : OPc.spawn 0 = .spawn j := hx
      injection hx' with e; exact e.symm
    subst this
    exact ⟨by show 0 < (Array.replicate n ({} : Client)).size; simp; omega, fun c hc => by omega⟩
  · cases hx

end TpK
