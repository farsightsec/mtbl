import MtblProofs.SorterProofs
/-
  C13, sorter clause: "the sorter yields the same entries as without a pool".
  With a pool the chunk jobs complete in any order (unordered delivery): the `readers` vector the final merger is built
  from is SOME PERMUTATION of the chunks the sequential sorter would hold (every chunk exactly once: C13_complete; all of
  them before the merger is built: the join in mtbl_sorter_iter, C14_sorter_join_first).  For every such permutation the
  merged output has the properties C06_output states for the sequential order.
-/
namespace Mtbl
namespace SorterProofs

section
variable {c : SCfg} {f : Bytes → Bytes → Bytes → Option Bytes}
  (hsort : ∀ l, (c.sortFn l).Perm l ∧ Sorted (c.sortFn l)) (hm : c.merge = some f)
  (hok : ∀ k a b, f k a b ≠ none)
include hsort hm hok

omit hsort hm hok in
/-- permuting the finished chunks of a sorter that buffers nothing keeps the add-phase invariant, for a permutation of
    the adds -/
theorem accInv_perm_chunks {adds : List Entry} {s : Sorter} (hi : AccInv c f adds s) (_hv : s.vec = [])
    (cs' : List (List Entry)) (hp : cs'.Perm s.chunks) :
    ∃ adds', adds'.Perm adds ∧ AccInv c f adds' { s with chunks := cs' } := by
  obtain ⟨pairs, p1, p2, p3⟩ := hi.parts
  obtain ⟨pairs', q1, q2⟩ := perm_map_lift (fun p : List Entry × List Entry => p.2) hp.symm pairs p2.symm
  refine ⟨(pairs'.map (·.1)).flatten ++ s.vec, ?_, ?_⟩
  · rw [p3]
    exact List.Perm.append_right _ ((q1.map _).flatten)
  · exact { hi with
      spills := by simp [hi.spills, hp.length_eq]
      parts := ⟨pairs', fun p hp' => p1 p (q1.mem_iff.mp hp'), q2.symm, rfl⟩ }

/-- **C13, sorter clause**: the chunk readers in any completion order give an output with the properties of `C06_output` -/
theorem pooled_sorter_output (mc : MCfg) (hmm : mc.merge = some f) (hds : mc.dupsort = none) (hF2 : mc.fixF2 = true)
    (adds : List Entry) (fuel : Nat) (hfuel : adds.length + 1 ≤ fuel) :
    let r := Sorter.addAll { cfg := c } adds
    ∃ s1, (if r.2.vec.length > 0 then r.2.flush else (.success, r.2)) = (.success, s1) ∧
      ∀ cs' : List (List Entry), cs'.Perm s1.chunks →
        ∃ m, mergerIter mc cs' .iter [] = some m ∧
          StrictSorted (mergerDrain mc fuel m) ∧
          (∀ k, (∃ e ∈ mergerDrain mc fuel m, e.key = k) ↔ (∃ e ∈ adds, e.key = k)) ∧
          ∀ e ∈ mergerDrain mc fuel m, Folded f e.key (valuesOf e.key adds) e.val := by
  intro r
  obtain ⟨_, h2⟩ := accInv_addAll hsort hm hok adds (accInv_fresh c f)
  rw [List.nil_append] at h2
  obtain ⟨s1, hr, hi1, hv1⟩ := accInv_finalFlush hsort hm hok h2
  obtain ⟨pairs, p1, p2, p3⟩ := hi1.parts
  rw [hv1, List.append_nil] at p3
  refine ⟨s1, hr, fun cs' hp => ⟨_, rfl, ?_⟩⟩
  rw [p3]
  exact (chunks_drain hok p1 (p2 ▸ hp) mc hmm hds hF2 fuel (p3 ▸ hfuel) rfl).2.2

end
end SorterProofs
end Mtbl
