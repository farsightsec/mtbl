import MtblModel.Tp


/-!
  The threadpool transition system `MtblModel/Tp.lean` (mtbl/threadpool.c): C13 (bound, at-most-once, order,
  completeness, deadlock freedom) and C14 (no data race), for all `max ≥ 1`, `njobs`, `ordered` and all schedules.

  Method: one invariant `Inv` (bounds and counting, ownership of thread records, per-place shape of
  a record, phases, sleepers' predicates, job accounting), preserved by every transition (`inv_step`, by
  cases on `Tp.Step`); C13 and C14 are consequences of `Inv`.
  A new transition of `Tp.step` needs: a constructor of `Step` and its branch in `Step.of_step`, a case in `inv_step`
  and in `phi_step` (TpLive), and its accesses in `Tp.accesses` with the footprint lemmas of Part 9.
-/

/-! ## Part 1: vocabulary and the invariant -/

namespace Tp


def isTop : WPc → Bool | .top _ => true | _ => false

/-- thread the caller owns; in unordered mode the worker owns itself from `assign` on (it will queue itself) -/
def cHand (cpc : CPc) (ordered : Bool) : Option Nat := match cpc with
  | .assign t => some t
  | .enqueue t => if ordered then some t else none
  | .kill t => some t
  | .joinW t => some t
  | _ => none

/-- thread the result handler owns -/
def hHand (hpc : HPc) : Option Nat := match hpc with
  | .waitRes t _ => some t
  | .giveBack t _ => some t
  | _ => none

/-- result held in a local variable of the handler -/
def hLoc (hpc : HPc) : List (Option Nat) := match hpc with
  | .giveBack _ r => [r]
  | .callback r => [r]
  | _ => []

/-- the job a thread record carries (as callback argument or as result) -/
def jobOf (th : Thr) : Option Nat := match th.cb with | some j => some j | none => th.res

/-- result the handler has or will take out of the thread it owns -/
def hJob (hpc : HPc) (thr : Array Thr) : List (Option Nat) := match hpc with
  | .waitRes t _ => [jobOf thr[t]!]
  | .giveBack _ r => [r]
  | .callback r => [r]
  | _ => []

/-- unordered dispatch: working, not yet in the result queue -/
def isW (th : Thr) : Bool := th.rq || th.pc == .selfEnq

def nWork (thr : Array Thr) : Nat := thr.countP isW

/-- the job `nextJob` has been handed out but `nextJob` not yet incremented -/
def pend (cpc : CPc) : Nat := match cpc with | .enqueue _ => 1 | _ => 0

/-- unordered mode: the worker counts in `nWork` from `assign` on, `nthreads` is bumped only at `enqueue` -/
def pendU (cpc : CPc) (ordered : Bool) : Int := match cpc with | .enqueue _ => if ordered then 0 else 1 | _ => 0

def inDestroy (cpc : CPc) : Bool := match cpc with
  | .destroy _ | .kill _ | .joinW _ | .done => true | _ => false

def afterFinish (cpc : CPc) : Bool := match cpc with
  | .joinH | .destroy _ | .kill _ | .joinW _ | .done => true | _ => false

def o2n (o : Option Nat) : Nat := match o with | some _ => 1 | none => 0

def SIdle (th : Thr) : Prop :=
  isTop th.pc = true ∧ th.running = false ∧ th.cb = none ∧ th.res = none ∧ th.rq = false
/-- ordered dispatch (in the caller's hand at `enqueue`, in the queue or in the handler's hand) -/
def SOrd (th : Thr) : Prop :=
  th.rq = false ∧
  (((th.pc = .top false ∨ th.pc = .gotJob) ∧ th.running = true ∧ th.cb ≠ none ∧ th.res = none) ∨
   (th.pc = .doneOrd ∧ th.running = true ∧ th.cb = none ∧ th.res ≠ none) ∨
   (isTop th.pc = true ∧ th.running = false ∧ th.cb = none ∧ th.res ≠ none))
/-- result ready -/
def SFin (th : Thr) : Prop :=
  isTop th.pc = true ∧ th.running = false ∧ th.cb = none ∧ th.res ≠ none ∧ th.rq = false
/-- unordered dispatch, not yet queued -/
def SWork (th : Thr) : Prop :=
  ((th.pc = .top false ∨ th.pc = .gotJob) ∧ th.running = true ∧ th.cb ≠ none ∧ th.res = none ∧ th.rq = true) ∨
  (th.pc = .selfEnq ∧ th.running = false ∧ th.cb = none ∧ th.res ≠ none ∧ th.rq = false)
/-- told to exit -/
def SKill (th : Thr) : Prop :=
  (th.pc = .top false ∨ th.pc = .gotJob ∨ th.pc = .exited) ∧ th.running = true ∧ th.cb = none ∧ th.res = none ∧ th.rq = false
/-- in the result queue / waited for by the handler -/
def SQ (ordered : Bool) (th : Thr) : Prop := if ordered then SOrd th else SFin th

structure Inv (s : St) : Prop where
  -- bounds and counting
  maxPos : 1 ≤ s.max
  countLe : s.count ≤ s.max
  sizeMain : inDestroy s.cpc = false → s.thr.size + (if s.cpc = .create then 1 else 0) = s.count
  sizeDestroy : inDestroy s.cpc = true → s.count = s.idle.length + o2n (cHand s.cpc s.ordered) ∧ s.count ≤ s.thr.size
  -- every record is in exactly one place; joined records stay in `thr`, hence only before `destroy`
  cnt : inDestroy s.cpc = false →
        s.thr.size = s.idle.length + s.queue.length + o2n (hHand s.hpc) + o2n (cHand s.cpc s.ordered) + nWork s.thr
  -- `Int`: the handler may dequeue a self-enqueued thread before the caller has counted it (−1)
  nthr : s.nthreads + pendU s.cpc s.ordered = (s.queue.length + nWork s.thr : Nat)
  -- places
  idleLt : ∀ t ∈ s.idle, t < s.thr.size
  queueLt : ∀ t ∈ s.queue, t < s.thr.size
  cHandLt : ∀ t, cHand s.cpc s.ordered = some t → t < s.thr.size
  hHandLt : ∀ t, hHand s.hpc = some t → t < s.thr.size
  idleNodup : s.idle.Nodup
  queueNodup : s.queue.Nodup
  cNotIdle : ∀ t, cHand s.cpc s.ordered = some t → t ∉ s.idle
  cNotQueue : ∀ t, cHand s.cpc s.ordered = some t → t ∉ s.queue
  hNotIdle : ∀ t, hHand s.hpc = some t → t ∉ s.idle
  hNotQueue : ∀ t, hHand s.hpc = some t → t ∉ s.queue
  chDisj : ∀ t, cHand s.cpc s.ordered = some t → hHand s.hpc ≠ some t
  -- per-thread: what the record looks like in each place, and that it is in some place
  tIdle : ∀ t, t ∈ s.idle → SIdle s.thr[t]!
  tAssign : ∀ t, s.cpc = .assign t → SIdle s.thr[t]!
  tKill : ∀ t, s.cpc = .kill t → SIdle s.thr[t]!
  tEnq : ∀ t, s.cpc = .enqueue t → s.ordered = true → SOrd s.thr[t]! ∧ jobOf s.thr[t]! = some s.nextJob
  tQueue : ∀ t, t ∈ s.queue → SQ s.ordered s.thr[t]!
  tWait : ∀ t a, s.hpc = .waitRes t a → SQ s.ordered s.thr[t]! ∧ (a = true → s.thr[t]!.running = true)
  tGive : ∀ t r, s.hpc = .giveBack t r → SIdle s.thr[t]!
  tJoinW : ∀ t, s.cpc = .joinW t → SKill s.thr[t]!
  tPlace : ∀ t, t < s.thr.size →
    t ∈ s.idle ∨ t ∈ s.queue ∨ hHand s.hpc = some t ∨ cHand s.cpc s.ordered = some t ∨
      (s.ordered = false ∧ SWork s.thr[t]!) ∨                                  -- working, owns itself
      (SKill s.thr[t]! ∧ s.thr[t]!.pc = .exited ∧ inDestroy s.cpc = true)   -- joined
  -- phases
  jobsLe : s.nextJob + pend s.cpc ≤ s.njobs
  jobsLt : (s.cpc = .create ∨ ∃ t, s.cpc = .assign t) → s.nextJob < s.njobs
  jobsDone : (afterFinish s.cpc = true ∨ s.cpc = .finish) → s.nextJob = s.njobs
  finIff : s.finished = afterFinish s.cpc
  hExit : s.hpc = .exited → afterFinish s.cpc = true ∧ s.queue = [] ∧ s.nthreads = 0
  destroyH : inDestroy s.cpc = true → s.hpc = .exited
  deqSleep : s.hpc = .deq true → s.queue = [] ∧ ¬ (s.finished = true ∧ s.nthreads = 0)
  nextSleep : s.cpc = .next true → s.idle = [] ∧ s.count = s.max
  destroySleep : s.cpc = .destroy true → s.idle = [] ∧ s.count ≠ 0
  -- jobs
  jDel : ∀ x ∈ s.delivered ++ hLoc s.hpc, ∃ j, x = some j ∧ j < s.nextJob + pend s.cpc
  jNodup : (s.delivered ++ hLoc s.hpc).Nodup
  jThr : ∀ t j, t < s.thr.size → jobOf s.thr[t]! = some j →
         j < s.nextJob + pend s.cpc ∧ some j ∉ s.delivered ++ hLoc s.hpc
  jInj : ∀ t u j, t < s.thr.size → u < s.thr.size → jobOf s.thr[t]! = some j → jobOf s.thr[u]! = some j → t = u
  jAll : ∀ j, j < s.nextJob + pend s.cpc →
         some j ∈ s.delivered ++ hLoc s.hpc ∨ ∃ t, t < s.thr.size ∧ jobOf s.thr[t]! = some j
  jOrd : s.ordered = true →
         s.delivered ++ hJob s.hpc s.thr ++ s.queue.map (fun t => jobOf s.thr[t]!) = (List.range s.nextJob).map some

end Tp


/-! ## Part 2: arrays, signals, evaluation lemmas -/

namespace Tp


theorem get_modify (a : Array Thr) (t u : Nat) (f : Thr → Thr) :
    (a.modify t f)[u]! = if u = t ∧ t < a.size then f a[u]! else a[u]! := by
  grind

theorem get_push (a : Array Thr) (x : Thr) (u : Nat) :
    (a.push x)[u]! = if u = a.size then x else a[u]! := by
  grind

theorem modify_eq_set (a : Array Thr) (t : Nat) (f : Thr → Thr) (h : t < a.size) :
    a.modify t f = a.set t (f a[t]) h := by
  apply Array.ext
  · simp
  · intro i h1 h2
    simp [Array.getElem_modify, Array.getElem_set]
    grind

theorem modify_oob (a : Array Thr) (t : Nat) (f : Thr → Thr) (h : ¬ t < a.size) : a.modify t f = a := by
  apply Array.ext
  · simp
  · intro i h1 h2
    simp [Array.getElem_modify]; grind

theorem nWork_modify (a : Array Thr) (t : Nat) (f : Thr → Thr) (h : t < a.size) :
    nWork (a.modify t f) + (if isW a[t]! then 1 else 0) = nWork a + (if isW (f a[t]!) then 1 else 0) := by
  have h1 := modify_eq_set a t f h
  have h2 : a[t]! = a[t] := getElem!_pos a t h
  have h3 : (if isW a[t] = true then 1 else 0) ≤ Array.countP isW a := by
    split
    · apply Array.countP_pos_iff.mpr
      exact ⟨a[t], by simp, by assumption⟩
    · omega
  rw [nWork, nWork, h1, Array.countP_set, h2]
  omega

theorem nWork_modify_eq (a : Array Thr) (t : Nat) (f : Thr → Thr) (h : isW (f a[t]!) = isW a[t]!) :
    nWork (a.modify t f) = nWork a := by
  by_cases ht : t < a.size
  · have := nWork_modify a t f ht
    rw [h] at this; omega
  · rw [modify_oob a t f ht]

theorem nWork_modify_same (a : Array Thr) (t : Nat) (f : Thr → Thr) (h : ∀ th, isW (f th) = isW th) :
    nWork (a.modify t f) = nWork a :=
  nWork_modify_eq a t f (h _)

theorem nWork_push (a : Array Thr) (x : Thr) : nWork (a.push x) = nWork a + (if isW x then 1 else 0) := by
  simp [nWork, Array.countP_push]

theorem nWork_pos (a : Array Thr) (h : 0 < nWork a) : ∃ t, t < a.size ∧ isW a[t]! = true := by
  obtain ⟨x, hx, hp⟩ := Array.countP_pos_iff.mp h
  obtain ⟨i, hi, rfl⟩ := Array.mem_iff_getElem.mp hx
  exact ⟨i, hi, by rw [getElem!_pos a i hi]; exact hp⟩

theorem nWork_zero (a : Array Thr) (h : nWork a = 0) (t : Nat) (ht : t < a.size) : isW a[t]! = false := by
  have := Array.countP_eq_zero.mp h a[t] (by simp)
  rw [getElem!_pos a t ht]; simpa using this


def wakeDeq : HPc → HPc | .deq true => .deq false | h => h
def wakeWait (t : Nat) : HPc → HPc
  | .waitRes t' true => if t' = t then .waitRes t false else .waitRes t' true
  | h => h
def wakeC : CPc → CPc | .next true => .next false | .destroy true => .destroy false | c => c
def wakeW (th : Thr) : Thr := match th.pc with | .top true => { th with pc := .top false } | _ => th

theorem signalRq_eq (s : St) : signalRq s = { s with hpc := wakeDeq s.hpc } := by
  unfold signalRq wakeDeq; split <;> simp_all

theorem signalPool_eq (s : St) : signalPool s = { s with cpc := wakeC s.cpc } := by
  unfold signalPool wakeC; split <;> simp_all

theorem signalThr_eq (s : St) (t : Nat) :
    signalThr s t = { s with thr := s.thr.modify t wakeW, hpc := wakeWait t s.hpc } := by
  obtain ⟨max, njobs, ordered, thr, idle, count, queue, nthreads, finished, cpc, nextJob, hpc, delivered⟩ := s
  rcases hpc with (_|_)|⟨t', (_|_)⟩|_|_|_ <;> simp [signalThr, wakeWait, setThr] <;> first | rfl | skip
  · split <;> simp_all <;> rfl

theorem wakeDeq_cases (h : HPc) : wakeDeq h = h ∨ (h = .deq true ∧ wakeDeq h = .deq false) := by
  rcases h with (_|_)|⟨t', (_|_)⟩|_|_|_ <;> simp [wakeDeq]

theorem wakeWait_cases (t : Nat) (h : HPc) :
    wakeWait t h = h ∨ (h = .waitRes t true ∧ wakeWait t h = .waitRes t false) := by
  rcases h with (_|_)|⟨t', (_|_)⟩|_|_|_ <;> simp [wakeWait]
  by_cases e : t' = t <;> simp [e]

theorem wakeC_cases (c : CPc) :
    wakeC c = c ∨ (c = .next true ∧ wakeC c = .next false) ∨ (c = .destroy true ∧ wakeC c = .destroy false) := by
  rcases c with (_|_)|_|_|_|_|_|(_|_)|_|_|_ <;> simp [wakeC]

theorem hHand_wakeDeq (h : HPc) : hHand (wakeDeq h) = hHand h := by
  rcases wakeDeq_cases h with e | ⟨e0, e⟩ <;> rw [e]
  rw [e0]; rfl

theorem wakeDeq_ne_sleep (h : HPc) : wakeDeq h ≠ .deq true := by
  rcases wakeDeq_cases h with e | ⟨_, e⟩ <;> rw [e]
  · exact fun e' => by rw [e'] at e; cases e
  · nofun

theorem wakeWait_ne_sleep (t : Nat) (h : HPc) : wakeWait t h ≠ .waitRes t true := by
  rcases wakeWait_cases t h with e | ⟨_, e⟩ <;> rw [e]
  · exact fun e' => by rw [e', wakeWait, if_pos rfl] at e; cases e
  · nofun

theorem wakeC_ne_next (c : CPc) : wakeC c ≠ .next true := by
  rcases c with (_|_)|_|_|_|_|_|(_|_)|_|_|_ <;> simp [wakeC]

theorem wakeC_ne_destroy (c : CPc) : wakeC c ≠ .destroy true := by
  rcases c with (_|_)|_|_|_|_|_|(_|_)|_|_|_ <;> simp [wakeC]

theorem wakeW_spec (th : Thr) :
    (wakeW th).running = th.running ∧ (wakeW th).cb = th.cb ∧ (wakeW th).res = th.res ∧ (wakeW th).rq = th.rq ∧
    (wakeW th).pc = (if th.pc = .top true then .top false else th.pc) := by
  unfold wakeW; split <;> simp_all

@[simp] theorem wakeW_running (th : Thr) : (wakeW th).running = th.running := (wakeW_spec th).1
@[simp] theorem wakeW_cb (th : Thr) : (wakeW th).cb = th.cb := (wakeW_spec th).2.1
@[simp] theorem wakeW_res (th : Thr) : (wakeW th).res = th.res := (wakeW_spec th).2.2.1
@[simp] theorem wakeW_rq (th : Thr) : (wakeW th).rq = th.rq := (wakeW_spec th).2.2.2.1
theorem wakeW_pc (th : Thr) : (wakeW th).pc = (if th.pc = .top true then .top false else th.pc) := (wakeW_spec th).2.2.2.2
@[simp] theorem jobOf_wakeW (th : Thr) : jobOf (wakeW th) = jobOf th := by simp [jobOf]
@[simp] theorem isW_wakeW (th : Thr) : isW (wakeW th) = isW th := by
  simp only [isW, wakeW_pc, wakeW_rq]; split <;> simp_all
  congr 1

theorem isW_congr {th th' : Thr} (h1 : th'.rq = th.rq) (h2 : th'.pc = .selfEnq ↔ th.pc = .selfEnq) : isW th' = isW th := by
  rw [Bool.eq_iff_iff]; simp [isW, h1, h2]

theorem modify_modify (a : Array Thr) (t : Nat) (f g : Thr → Thr) :
    (a.modify t f).modify t g = a.modify t (fun th => g (f th)) := by
  apply Array.ext
  · simp
  · intro i h1 h2
    simp [Array.getElem_modify]; grind

theorem modify_spec (a : Array Thr) (t : Nat) (f : Thr → Thr) (ht : t < a.size) :
    (a.modify t f).size = a.size ∧ (a.modify t f)[t]! = f a[t]! ∧ (∀ u, u ≠ t → (a.modify t f)[u]! = a[u]!) ∧
    nWork (a.modify t f) + (if isW a[t]! then 1 else 0) = nWork a + (if isW (f a[t]!) then 1 else 0) := by
  refine ⟨by simp, ?_, ?_, nWork_modify a t f ht⟩
  · rw [get_modify]; simp [ht]
  · intro u hu; rw [get_modify]; simp [hu]

theorem modify_rel {R : Thr → Thr → Prop} (a : Array Thr) (t : Nat) (f : Thr → Thr) (hrefl : ∀ x, R x x)
    (ht : R a[t]! (f a[t]!)) (u : Nat) : R a[u]! (a.modify t f)[u]! := by
  rw [get_modify]
  split
  · rename_i h; rw [h.1]; exact ht
  · exact hrefl _

theorem push_spec (a : Array Thr) (x : Thr) :
    (a.push x).size = a.size + 1 ∧ (a.push x)[a.size]! = x ∧ (∀ u, u ≠ a.size → (a.push x)[u]! = a[u]!) ∧
    nWork (a.push x) = nWork a + (if isW x then 1 else 0) := by
  refine ⟨by simp, ?_, ?_, nWork_push a x⟩
  · rw [get_push]; simp
  · intro u hu; rw [get_push]; simp [hu]

theorem hJob_congr (a a' : Array Thr) (h : HPc) (hh : ∀ u, hHand h = some u → jobOf a'[u]! = jobOf a[u]!) :
    hJob h a' = hJob h a := by
  rcases h with (_|_)|⟨t', (_|_)⟩|_|_|_ <;> simp [hJob, hHand] at * <;> exact hh

theorem jOrd_congr (thr thr' : Array Thr) (delivered : List (Option Nat)) (hpc : HPc) (queue : List Nat)
    (hq : ∀ u ∈ queue, jobOf thr'[u]! = jobOf thr[u]!) (hh : ∀ u, hHand hpc = some u → jobOf thr'[u]! = jobOf thr[u]!) :
    delivered ++ hJob hpc thr' ++ queue.map (fun t => jobOf thr'[t]!) =
    delivered ++ hJob hpc thr ++ queue.map (fun t => jobOf thr[t]!) := by
  rw [List.map_congr_left hq, hJob_congr thr thr' hpc hh]

theorem mem_snoc {u t : Nat} {q : List Nat} (m : u ∈ q ++ [t]) : u ∈ q ∨ u = t := by simpa using m

theorem isTop_iff (p : WPc) : isTop p = true ↔ (p = .top true ∨ p = .top false) := by
  rcases p with (_|_)|_|_|_|_ <;> simp [isTop]

theorem cHand_next {a} {o : Bool} : cHand (.next a) o = none := rfl
theorem cHand_create {o : Bool} : cHand .create o = none := rfl
theorem cHand_assign {t} {o : Bool} : cHand (.assign t) o = some t := rfl
theorem cHand_enqueue {t} {o : Bool} : cHand (.enqueue t) o = (if o then some t else none) := rfl
theorem cHand_finish {o : Bool} : cHand .finish o = none := rfl
theorem cHand_joinH {o : Bool} : cHand .joinH o = none := rfl
theorem cHand_destroy {a} {o : Bool} : cHand (.destroy a) o = none := rfl
theorem cHand_kill {t} {o : Bool} : cHand (.kill t) o = some t := rfl
theorem cHand_joinW {t} {o : Bool} : cHand (.joinW t) o = some t := rfl
theorem cHand_done {o : Bool} : cHand .done o = none := rfl
theorem pend_next {a} : pend (.next a) = 0 := rfl
theorem pend_create : pend .create = 0 := rfl
theorem pend_assign {t} : pend (.assign t) = 0 := rfl
theorem pend_enqueue {t} : pend (.enqueue t) = 1 := rfl
theorem pend_finish : pend .finish = 0 := rfl
theorem pend_joinH : pend .joinH = 0 := rfl
theorem pend_destroy {a} : pend (.destroy a) = 0 := rfl
theorem pend_kill {t} : pend (.kill t) = 0 := rfl
theorem pend_joinW {t} : pend (.joinW t) = 0 := rfl
theorem pend_done : pend .done = 0 := rfl
theorem pendU_next {a} {o : Bool} : pendU (.next a) o = 0 := rfl
theorem pendU_create {o : Bool} : pendU .create o = 0 := rfl
theorem pendU_assign {t} {o : Bool} : pendU (.assign t) o = 0 := rfl
theorem pendU_enqueue {t} {o : Bool} : pendU (.enqueue t) o = (if o then 0 else 1) := rfl
theorem pendU_finish {o : Bool} : pendU .finish o = 0 := rfl
theorem pendU_joinH {o : Bool} : pendU .joinH o = 0 := rfl
theorem pendU_destroy {a} {o : Bool} : pendU (.destroy a) o = 0 := rfl
theorem pendU_kill {t} {o : Bool} : pendU (.kill t) o = 0 := rfl
theorem pendU_joinW {t} {o : Bool} : pendU (.joinW t) o = 0 := rfl
theorem pendU_done {o : Bool} : pendU .done o = 0 := rfl
theorem inDestroy_next {a} : inDestroy (.next a) = false := rfl
theorem inDestroy_create : inDestroy .create = false := rfl
theorem inDestroy_assign {t} : inDestroy (.assign t) = false := rfl
theorem inDestroy_enqueue {t} : inDestroy (.enqueue t) = false := rfl
theorem inDestroy_finish : inDestroy .finish = false := rfl
theorem inDestroy_joinH : inDestroy .joinH = false := rfl
theorem inDestroy_destroy {a} : inDestroy (.destroy a) = true := rfl
theorem inDestroy_kill {t} : inDestroy (.kill t) = true := rfl
theorem inDestroy_joinW {t} : inDestroy (.joinW t) = true := rfl
theorem inDestroy_done : inDestroy .done = true := rfl
theorem afterFinish_next {a} : afterFinish (.next a) = false := rfl
theorem afterFinish_create : afterFinish .create = false := rfl
theorem afterFinish_assign {t} : afterFinish (.assign t) = false := rfl
theorem afterFinish_enqueue {t} : afterFinish (.enqueue t) = false := rfl
theorem afterFinish_finish : afterFinish .finish = false := rfl
theorem afterFinish_joinH : afterFinish .joinH = true := rfl
theorem afterFinish_destroy {a} : afterFinish (.destroy a) = true := rfl
theorem afterFinish_kill {t} : afterFinish (.kill t) = true := rfl
theorem afterFinish_joinW {t} : afterFinish (.joinW t) = true := rfl
theorem afterFinish_done : afterFinish .done = true := rfl
theorem hHand_deq {a} : hHand (.deq a) = none := rfl
theorem hHand_waitRes {t} {a} : hHand (.waitRes t a) = some t := rfl
theorem hHand_giveBack {t} {r} : hHand (.giveBack t r) = some t := rfl
theorem hHand_callback {r} : hHand (.callback r) = none := rfl
theorem hHand_exited : hHand .exited = none := rfl
theorem hLoc_deq {a} : hLoc (.deq a) = [] := rfl
theorem hLoc_waitRes {t} {a} : hLoc (.waitRes t a) = [] := rfl
theorem hLoc_giveBack {t} {r} : hLoc (.giveBack t r) = [r] := rfl
theorem hLoc_callback {r} : hLoc (.callback r) = [r] := rfl
theorem hLoc_exited : hLoc .exited = [] := rfl
theorem hJob_deq {a} {thr : Array Thr} : hJob (.deq a) thr = [] := rfl
theorem hJob_waitRes {t} {a} {thr : Array Thr} : hJob (.waitRes t a) thr = [jobOf thr[t]!] := rfl
theorem hJob_giveBack {t} {r} {thr : Array Thr} : hJob (.giveBack t r) thr = [r] := rfl
theorem hJob_callback {r} {thr : Array Thr} : hJob (.callback r) thr = [r] := rfl
theorem hJob_exited {thr : Array Thr} : hJob .exited thr = [] := rfl

theorem pendU_afterFinish {c : CPc} {o : Bool} (h : afterFinish c = true) : pendU c o = 0 := by
  rcases c with (_|_)|_|_|_|_|_|(_|_)|_|_|_ <;> simp_all [afterFinish, pendU]
theorem pend_afterFinish {c : CPc} (h : afterFinish c = true) : pend c = 0 := by
  rcases c with (_|_)|_|_|_|_|_|(_|_)|_|_|_ <;> simp_all [afterFinish, pend]
theorem inDestroy_afterFinish {c : CPc} (h : inDestroy c = true) : afterFinish c = true := by
  rcases c with (_|_)|_|_|_|_|_|(_|_)|_|_|_ <;> simp_all [afterFinish, inDestroy]
theorem get?_map_eq_some {α β : Type} [Inhabited α] {a : Array α} {i : Nat} {f : α → β} {b : β}
    (h : a[i]?.map f = some b) : i < a.size ∧ f a[i]! = b := by
  by_cases hi : i < a.size
  · rw [Array.getElem?_eq_getElem hi] at h
    exact ⟨hi, by rw [getElem!_pos a i hi]; exact Option.some.inj h⟩
  · rw [Array.getElem?_eq_none (Nat.le_of_not_lt hi)] at h; cases h

end Tp


/-! ## Part 3: the transitions, one by one -/

namespace Tp

/-- `step` as a relation; post-states use the wake-up functions -/
inductive Step (s : St) : Lbl → St → Prop
  | nextDone (hc : s.cpc = .next false) (hj : s.nextJob ≥ s.njobs) : Step s (.run .caller) { s with cpc := .finish }
  | nextTake {t : Nat} {rest : List Nat} (hc : s.cpc = .next false) (hj : s.nextJob < s.njobs)
      (hi : s.idle = t :: rest) : Step s (.run .caller) { s with idle := rest, cpc := .assign t }
  | nextSleep (hc : s.cpc = .next false) (hj : s.nextJob < s.njobs) (hi : s.idle = []) (hm : s.count = s.max) :
      Step s (.run .caller) { s with cpc := .next true }
  | nextGrow (hc : s.cpc = .next false) (hj : s.nextJob < s.njobs) (hi : s.idle = []) (hm : s.count ≠ s.max) :
      Step s (.run .caller) { s with count := s.count + 1, cpc := .create }
  | create (hc : s.cpc = .create) : Step s (.run .caller) { s with thr := s.thr.push {}, cpc := .assign s.thr.size }
  | assign {t : Nat} (hc : s.cpc = .assign t) :
      Step s (.run .caller)
        { s with thr := s.thr.modify t fun th => wakeW { th with rq := !s.ordered, cb := some s.nextJob, running := true },
                 hpc := wakeWait t s.hpc, cpc := .enqueue t }
  | enqueueOrd {t : Nat} (hc : s.cpc = .enqueue t) (ho : s.ordered = true) :
      Step s (.run .caller)
        { s with nthreads := s.nthreads + 1, queue := s.queue ++ [t], hpc := wakeDeq s.hpc, cpc := .next false,
                 nextJob := s.nextJob + 1 }
  | enqueueUnord {t : Nat} (hc : s.cpc = .enqueue t) (ho : s.ordered = false) :
      Step s (.run .caller) { s with nthreads := s.nthreads + 1, cpc := .next false, nextJob := s.nextJob + 1 }
  | finish (hc : s.cpc = .finish) :
      Step s (.run .caller) { s with finished := true, hpc := wakeDeq s.hpc, cpc := .joinH }
  | joinH (hc : s.cpc = .joinH) (hh : s.hpc = .exited) : Step s (.run .caller) { s with cpc := .destroy false }
  | destroyDone (hc : s.cpc = .destroy false) (h0 : s.count = 0) : Step s (.run .caller) { s with cpc := .done }
  | destroySleep (hc : s.cpc = .destroy false) (h0 : s.count ≠ 0) (hi : s.idle = []) :
      Step s (.run .caller) { s with cpc := .destroy true }
  | destroyTake {t : Nat} {rest : List Nat} (hc : s.cpc = .destroy false) (h0 : s.count ≠ 0)
      (hi : s.idle = t :: rest) : Step s (.run .caller) { s with idle := rest, cpc := .kill t }
  | kill {t : Nat} (hc : s.cpc = .kill t) :
      Step s (.run .caller)
        { s with thr := s.thr.modify t fun th => wakeW { th with running := true }, hpc := wakeWait t s.hpc, cpc := .joinW t }
  | joinW {t : Nat} (hc : s.cpc = .joinW t) (he : s.thr[t]!.pc = .exited) :
      Step s (.run .caller) { s with count := s.count - 1, cpc := .destroy false }
  | deqTake {t : Nat} {rest : List Nat} (hh : s.hpc = .deq false) (hq : s.queue = t :: rest) :
      Step s (.run .handler) { s with queue := rest, nthreads := s.nthreads - 1, hpc := .waitRes t false }
  | deqExit (hh : s.hpc = .deq false) (hq : s.queue = []) (hf : s.finished = true ∧ s.nthreads = 0) :
      Step s (.run .handler) { s with hpc := .exited }
  | deqSleep (hh : s.hpc = .deq false) (hq : s.queue = []) (hf : ¬ (s.finished = true ∧ s.nthreads = 0)) :
      Step s (.run .handler) { s with hpc := .deq true }
  | waitSleep {t : Nat} (hh : s.hpc = .waitRes t false) (hr : s.thr[t]!.running = true) :
      Step s (.run .handler) { s with hpc := .waitRes t true }
  | waitTake {t : Nat} (hh : s.hpc = .waitRes t false) (hr : s.thr[t]!.running = false) :
      Step s (.run .handler)
        { s with thr := s.thr.modify t fun th => { th with res := none }, hpc := .giveBack t s.thr[t]!.res }
  | giveBack {t : Nat} {r : Option Nat} (hh : s.hpc = .giveBack t r) :
      Step s (.run .handler) { s with idle := t :: s.idle, hpc := .callback r, cpc := wakeC s.cpc }
  | callback {r : Option Nat} (hh : s.hpc = .callback r) :
      Step s (.run .handler) { s with delivered := s.delivered ++ [r], hpc := .deq false }
  | wGo {t : Nat} (ht : t < s.thr.size) (hp : s.thr[t]!.pc = .top false) (hr : s.thr[t]!.running = true) :
      Step s (.run (.worker t)) { s with thr := s.thr.modify t fun th => { th with pc := .gotJob } }
  | wSleep {t : Nat} (ht : t < s.thr.size) (hp : s.thr[t]!.pc = .top false) (hr : s.thr[t]!.running = false) :
      Step s (.run (.worker t)) { s with thr := s.thr.modify t fun th => { th with pc := .top true } }
  | wExit {t : Nat} (ht : t < s.thr.size) (hp : s.thr[t]!.pc = .gotJob) (hcb : s.thr[t]!.cb = none) :
      Step s (.run (.worker t)) { s with thr := s.thr.modify t fun th => { th with pc := .exited } }
  | wRunUnord {t j : Nat} (ht : t < s.thr.size) (hp : s.thr[t]!.pc = .gotJob) (hcb : s.thr[t]!.cb = some j)
      (hrq : s.thr[t]!.rq = true) :
      Step s (.run (.worker t))
        { s with thr := s.thr.modify t fun th => { th with res := some j, cb := none, rq := false, running := false, pc := .selfEnq } }
  | wRunOrd {t j : Nat} (ht : t < s.thr.size) (hp : s.thr[t]!.pc = .gotJob) (hcb : s.thr[t]!.cb = some j)
      (hrq : s.thr[t]!.rq = false) :
      Step s (.run (.worker t)) { s with thr := s.thr.modify t fun th => { th with res := some j, cb := none, pc := .doneOrd } }
  | wEnq {t : Nat} (ht : t < s.thr.size) (hp : s.thr[t]!.pc = .selfEnq) :
      Step s (.run (.worker t))
        { s with thr := s.thr.modify t fun th => { th with pc := .top false }, queue := s.queue ++ [t], hpc := wakeDeq s.hpc }
  | wDone {t : Nat} (ht : t < s.thr.size) (hp : s.thr[t]!.pc = .doneOrd) :
      Step s (.run (.worker t))
        { s with thr := s.thr.modify t fun th => wakeW { th with running := false, pc := .top false },
                 hpc := wakeWait t s.hpc }
  | spCaller (hc : s.cpc = .next true ∨ s.cpc = .destroy true) :
      Step s (.spurious .caller) { s with cpc := wakeC s.cpc }
  | spDeq (hh : s.hpc = .deq true) : Step s (.spurious .handler) { s with hpc := .deq false }
  | spWait {t : Nat} (hh : s.hpc = .waitRes t true) : Step s (.spurious .handler) { s with hpc := .waitRes t false }
  | spWorker {t : Nat} (ht : t < s.thr.size) (hp : s.thr[t]!.pc = .top true) :
      Step s (.spurious (.worker t)) { s with thr := s.thr.modify t fun th => { th with pc := .top false } }

theorem Step.of_step {s s' : St} {l : Lbl} (hs : step s l = some s') : Step s l s' := by
  rcases l with (_|_|t)|(_|_|t)
  · simp only [step, stepCaller] at hs
    split at hs
    · cases hs
    · rename_i hc
      split at hs
      · rename_i hj; cases hs; exact .nextDone hc hj
      · rename_i hj
        split at hs
        · rename_i t rest hi; cases hs; exact .nextTake hc (Nat.lt_of_not_le hj) hi
        · rename_i hi
          split at hs
          · rename_i hm; cases hs; exact .nextSleep hc (Nat.lt_of_not_le hj) hi hm
          · rename_i hm; cases hs; exact .nextGrow hc (Nat.lt_of_not_le hj) hi hm
    · rename_i hc; cases hs; exact .create hc
    · rename_i t hc; cases hs
      simp only [signalThr_eq, setThr, modify_modify]
      exact .assign hc
    · rename_i t hc
      simp only [signalRq_eq] at hs
      split at hs
      · rename_i ho; cases hs; exact .enqueueOrd hc ho
      · rename_i ho; cases hs; exact .enqueueUnord hc (by simpa using ho)
    · rename_i hc; cases hs; rw [signalRq_eq]; exact .finish hc
    · rename_i hc
      split at hs
      · rename_i hh; cases hs; exact .joinH hc hh
      · cases hs
    · cases hs
    · rename_i hc
      split at hs
      · rename_i h0; cases hs; exact .destroyDone hc h0
      · rename_i h0
        split at hs
        · rename_i hi; cases hs; exact .destroySleep hc h0 hi
        · rename_i t rest hi; cases hs; exact .destroyTake hc h0 hi
    · rename_i t hc; cases hs
      simp only [signalThr_eq, setThr, modify_modify]
      exact .kill hc
    · rename_i t hc
      split at hs
      · rename_i he; cases hs; exact .joinW hc he
      · cases hs
    · cases hs
  · simp only [step, stepHandler] at hs
    split at hs
    · cases hs
    · rename_i hh
      split at hs
      · rename_i t rest hq; cases hs; exact .deqTake hh hq
      · rename_i hq
        split at hs
        · rename_i hf; cases hs; exact .deqExit hh hq (by simpa using hf)
        · rename_i hf; cases hs; exact .deqSleep hh hq (by simpa using hf)
    · cases hs
    · rename_i t hh
      split at hs
      · rename_i hr; cases hs; exact .waitSleep hh hr
      · rename_i hr; cases hs; exact .waitTake hh (by simpa using hr)
    · rename_i t r hh; cases hs; rw [signalPool_eq]; exact .giveBack hh
    · rename_i r hh; cases hs; exact .callback hh
    · cases hs
  · simp only [step, stepWorker] at hs
    split at hs
    case isFalse => cases hs
    rename_i ht
    split at hs
    · cases hs
    · rename_i hp
      split at hs
      · rename_i hr; cases hs; exact .wGo ht hp hr
      · rename_i hr; cases hs; exact .wSleep ht hp (by simpa using hr)
    · rename_i hp
      split at hs
      · rename_i hcb; cases hs; exact .wExit ht hp hcb
      · rename_i j hcb
        split at hs
        · rename_i hrq; cases hs; exact .wRunUnord ht hp hcb hrq
        · rename_i hrq; cases hs; exact .wRunOrd ht hp hcb (by simpa using hrq)
    · rename_i hp; cases hs; rw [signalRq_eq]; exact .wEnq ht hp
    · rename_i hp; cases hs
      simp only [signalThr_eq, setThr, modify_modify]
      exact .wDone ht hp
    · cases hs
  · simp only [step] at hs
    split at hs
    · rename_i hc; cases hs; have := Step.spCaller (.inl hc); rwa [hc] at this
    · rename_i hc; cases hs; have := Step.spCaller (.inr hc); rwa [hc] at this
    · cases hs
  · simp only [step] at hs
    split at hs
    · rename_i hh; cases hs; exact .spDeq hh
    · rename_i t hh; cases hs; exact .spWait hh
    · cases hs
  · simp only [step] at hs
    split at hs
    · rename_i hp; cases hs; exact .spWorker (get?_map_eq_some hp).1 (get?_map_eq_some hp).2
    · cases hs

theorem step_params {s s' : St} {l : Lbl} (h : step s l = some s') :
    s'.max = s.max ∧ s'.njobs = s.njobs ∧ s'.ordered = s.ordered := by
  cases Step.of_step h <;> exact ⟨rfl, rfl, rfl⟩

theorem reachable_params {max njobs : Nat} {ordered : Bool} {s : St} (hr : Reachable max njobs ordered s) :
    s.max = max ∧ s.njobs = njobs ∧ s.ordered = ordered := by
  induction hr with
  | init => exact ⟨rfl, rfl, rfl⟩
  | step _ hs ih =>
    have := step_params hs
    exact ⟨this.1.trans ih.1, this.2.1.trans ih.2.1, this.2.2.trans ih.2.2⟩

end Tp



/-! ## Part 4: where a record can be, given its shape -/

namespace Tp

theorem SIdle.top {th : Thr} (h : SIdle th) : isTop th.pc = true := h.1
theorem SIdle.running {th : Thr} (h : SIdle th) : th.running = false := h.2.1
theorem SIdle.cb {th : Thr} (h : SIdle th) : th.cb = none := h.2.2.1
theorem SIdle.res {th : Thr} (h : SIdle th) : th.res = none := h.2.2.2.1
theorem SIdle.rq {th : Thr} (h : SIdle th) : th.rq = false := h.2.2.2.2
theorem SIdle.job {th : Thr} (h : SIdle th) : jobOf th = none := by simp [jobOf, h.cb, h.res]
theorem SFin.running {th : Thr} (h : SFin th) : th.running = false := h.2.1
theorem SFin.cb {th : Thr} (h : SFin th) : th.cb = none := h.2.2.1
theorem SFin.res {th : Thr} (h : SFin th) : th.res ≠ none := h.2.2.2.1
theorem SFin.rq {th : Thr} (h : SFin th) : th.rq = false := h.2.2.2.2

theorem SQ.cases {o : Bool} {th : Thr} (h : SQ o th) : SOrd th ∨ SFin th := by
  unfold SQ at h; split at h
  · exact .inl h
  · exact .inr h

/-- a signal leaves a record that stands at its loop head awake there -/
theorem wakeW_pc_of_top {th : Thr} (h : isTop th.pc = true) : (wakeW th).pc = .top false := by
  rw [wakeW_pc]; rcases (isTop_iff _).mp h with e | e <;> simp [e]

theorem hHand_eq_some {h : HPc} {t : Nat} :
    hHand h = some t ↔ (∃ a, h = .waitRes t a) ∨ (∃ r, h = .giveBack t r) := by
  rcases h with (_|_)|⟨t', (_|_)⟩|_|_|_ <;> simp [hHand]

theorem cHand_eq_some {c : CPc} {o : Bool} {t : Nat} :
    cHand c o = some t ↔ c = .assign t ∨ (c = .enqueue t ∧ o = true) ∨ c = .kill t ∨ c = .joinW t := by
  rcases c with (_|_)|_|_|_|_|_|(_|_)|_|_|_ <;> simp [cHand]
  exact And.comm

theorem Inv.shapeH {s : St} (h : Inv s) {t : Nat} (hh : hHand s.hpc = some t) :
    SQ s.ordered s.thr[t]! ∨ SIdle s.thr[t]! := by
  rcases hHand_eq_some.mp hh with ⟨a, ha⟩ | ⟨r, hr⟩
  · exact .inl (h.tWait t a ha).1
  · exact .inr (h.tGive t r hr)

theorem Inv.shapeC {s : St} (h : Inv s) {t : Nat} (hc : cHand s.cpc s.ordered = some t) :
    SIdle s.thr[t]! ∨ SOrd s.thr[t]! ∨ SKill s.thr[t]! := by
  rcases cHand_eq_some.mp hc with ha | ⟨ha, ho⟩ | ha | ha
  · exact .inl (h.tAssign t ha)
  · exact .inr (.inl (h.tEnq t ha ho).1)
  · exact .inl (h.tKill t ha)
  · exact .inr (.inr (h.tJoinW t ha))

theorem Inv.free {s : St} (h : Inv s) {t : Nat} (ht : t < s.thr.size)
    (h1 : ¬ SIdle s.thr[t]!) (h2 : ¬ SOrd s.thr[t]!) (h3 : ¬ SFin s.thr[t]!) (h4 : ¬ SKill s.thr[t]!) :
    t ∉ s.idle ∧ t ∉ s.queue ∧ hHand s.hpc ≠ some t ∧ cHand s.cpc s.ordered ≠ some t ∧
    ((s.ordered = false ∧ SWork s.thr[t]!) ∨ (SKill s.thr[t]! ∧ s.thr[t]!.pc = .exited ∧ inDestroy s.cpc = true)) := by
  have a1 : t ∉ s.idle := fun hi => h1 (h.tIdle t hi)
  have a2 : t ∉ s.queue := fun hi => by
    rcases (h.tQueue t hi).cases with q | q <;> contradiction
  have a3 : hHand s.hpc ≠ some t := fun hi => by
    rcases h.shapeH hi with hq | hq
    · rcases hq.cases with q | q <;> contradiction
    · contradiction
  have a4 : cHand s.cpc s.ordered ≠ some t := fun hi => by
    rcases h.shapeC hi with hq | hq | hq <;> contradiction
  refine ⟨a1, a2, a3, a4, ?_⟩
  rcases h.tPlace t ht with p | p | p | p | p | p
  · exact absurd p a1
  · exact absurd p a2
  · exact absurd p a3
  · exact absurd p a4
  · exact .inl p
  · exact .inr p

/-- every record has one of the five shapes -/
theorem Inv.shape {s : St} (h : Inv s) {t : Nat} (ht : t < s.thr.size) :
    SIdle s.thr[t]! ∨ SOrd s.thr[t]! ∨ SFin s.thr[t]! ∨ SWork s.thr[t]! ∨ SKill s.thr[t]! := by
  rcases h.tPlace t ht with p | p | p | p | p | p
  · exact .inl (h.tIdle t p)
  · exact .inr ((h.tQueue t p).cases.imp id .inl)
  · exact (h.shapeH p).elim (fun q => .inr (q.cases.imp id .inl)) .inl
  · exact (h.shapeC p).imp id (Or.imp id (.inr ∘ .inr))
  · exact .inr (.inr (.inr (.inl p.2)))
  · exact .inr (.inr (.inr (.inr p.1)))

theorem Inv.selfEnq {s : St} (h : Inv s) {t : Nat} (ht : t < s.thr.size) (hp : s.thr[t]!.pc = .selfEnq) :
    t ∉ s.idle ∧ t ∉ s.queue ∧ hHand s.hpc ≠ some t ∧ cHand s.cpc s.ordered ≠ some t ∧
    s.ordered = false ∧ SWork s.thr[t]! := by
  have := h.free ht (by simp [SIdle, hp, isTop]) (by simp [SOrd, hp, isTop]) (by simp [SFin, hp, isTop])
    (by simp [SKill, hp])
  simp [hp] at this
  exact this

theorem Inv.idle_queue {s : St} (h : Inv s) {t : Nat} (h1 : t ∈ s.idle) (h2 : t ∈ s.queue) : False := by
  have a := h.tIdle t h1
  rcases (h.tQueue t h2).cases with b | b
  · rcases b.2 with q | q | q
    · exact q.2.2.1 a.cb
    · exact q.2.2.2 a.res
    · exact q.2.2.2 a.res
  · exact b.res a.res

end Tp


/-! ## Part 5: what the invariant reads of the state

  The thread array: size, `nWork`, job and shapes of each record (`Inv.frame`).  The program counters: `cHand`, `pend`, …
  resp. `hHand`, `hLoc`, `hJob` and a few pointed tests (`Inv.setCpc`, `Inv.setHpc`). -/

namespace Tp

structure Places (n : Nat) (idle queue : List Nat) (c h : Option Nat) : Prop where
  idleLt : ∀ t ∈ idle, t < n
  queueLt : ∀ t ∈ queue, t < n
  cHandLt : ∀ t, c = some t → t < n
  hHandLt : ∀ t, h = some t → t < n
  idleNodup : idle.Nodup
  queueNodup : queue.Nodup
  cNotIdle : ∀ t, c = some t → t ∉ idle
  cNotQueue : ∀ t, c = some t → t ∉ queue
  hNotIdle : ∀ t, h = some t → t ∉ idle
  hNotQueue : ∀ t, h = some t → t ∉ queue
  chDisj : ∀ t, c = some t → h ≠ some t
  iqDisj : ∀ t ∈ idle, t ∉ queue

theorem Inv.places {s : St} (h : Inv s) : Places s.thr.size s.idle s.queue (cHand s.cpc s.ordered) (hHand s.hpc) :=
  ⟨h.idleLt, h.queueLt, h.cHandLt, h.hHandLt, h.idleNodup, h.queueNodup, h.cNotIdle, h.cNotQueue, h.hNotIdle,
    h.hNotQueue, h.chDisj, fun _ h1 h2 => h.idle_queue h1 h2⟩

namespace Places
variable {n t : Nat} {idle queue rest : List Nat} {c h : Option Nat}

theorem popIdle (p : Places n (t :: rest) queue none h) : Places n rest queue (some t) h :=
  have nd := List.nodup_cons.mp p.idleNodup
  ⟨fun u m => p.idleLt u (.tail _ m), p.queueLt, fun _ e => Option.some.inj e ▸ p.idleLt t (.head _), p.hHandLt, nd.2,
    p.queueNodup, fun _ e => Option.some.inj e ▸ nd.1, fun _ e => Option.some.inj e ▸ p.iqDisj t (.head _),
    fun u e m => p.hNotIdle u e (.tail _ m), p.hNotQueue, fun _ e e' => p.hNotIdle _ e' (Option.some.inj e ▸ .head _),
    fun u m => p.iqDisj u (.tail _ m)⟩

/-- the same move in `Inv.tPlace`: the thread taken is now in the caller's hand -/
theorem popIdle_place {u : Nat} {Q H W : Prop} (h : u ∈ t :: rest ∨ Q ∨ H ∨ (none : Option Nat) = some u ∨ W) :
    u ∈ rest ∨ Q ∨ H ∨ some t = some u ∨ W := by
  rcases h with m | m
  · rcases List.mem_cons.mp m with rfl | m
    · exact .inr (.inr (.inr (.inl rfl)))
    · exact .inl m
  · exact .inr (m.imp id <| Or.imp id <| Or.imp nofun id)

theorem popQueue (p : Places n idle (t :: rest) c none) : Places n idle rest c (some t) :=
  have nd := List.nodup_cons.mp p.queueNodup
  ⟨p.idleLt, fun u m => p.queueLt u (.tail _ m), p.cHandLt, fun _ e => Option.some.inj e ▸ p.queueLt t (.head _),
    p.idleNodup, nd.2, p.cNotIdle, fun u e m => p.cNotQueue u e (.tail _ m),
    fun _ e m => p.iqDisj _ m (Option.some.inj e ▸ .head _), fun _ e => Option.some.inj e ▸ nd.1,
    fun u e e' => p.cNotQueue u e (Option.some.inj e' ▸ .head _), fun u m m' => p.iqDisj u m (.tail _ m')⟩

theorem toIdle (p : Places n idle queue c (some t)) : Places n (t :: idle) queue c none :=
  ⟨fun u m => (List.mem_cons.mp m).elim (· ▸ p.hHandLt t rfl) (p.idleLt u), p.queueLt, p.cHandLt, nofun,
    List.nodup_cons.mpr ⟨p.hNotIdle t rfl, p.idleNodup⟩, p.queueNodup,
    fun u e m => (List.mem_cons.mp m).elim (fun e' => p.chDisj u e (e' ▸ rfl)) (p.cNotIdle u e), p.cNotQueue, nofun, nofun,
    fun _ _ => nofun, fun u m => (List.mem_cons.mp m).elim (· ▸ p.hNotQueue t rfl) (p.iqDisj u)⟩

theorem subC {c' : Option Nat} (p : Places n idle queue c h) (hc : ∀ t, c' = some t → c = some t) : Places n idle queue c' h :=
  ⟨p.idleLt, p.queueLt, fun t e => p.cHandLt t (hc t e), p.hHandLt, p.idleNodup, p.queueNodup, fun t e => p.cNotIdle t (hc t e),
    fun t e => p.cNotQueue t (hc t e), p.hNotIdle, p.hNotQueue, fun t e => p.chDisj t (hc t e), p.iqDisj⟩

theorem dropC (p : Places n idle queue c h) : Places n idle queue none h := p.subC nofun

theorem enq (p : Places n idle queue c h) (lt : t < n) (hi : t ∉ idle) (hq : t ∉ queue) (hc : c ≠ some t) (hh : h ≠ some t) :
    Places n idle (queue ++ [t]) c h :=
  ⟨p.idleLt, fun u m => (mem_snoc m).elim (p.queueLt u) (· ▸ lt), p.cHandLt, p.hHandLt, p.idleNodup,
    List.nodup_append.mpr ⟨p.queueNodup, (by simp), fun a ha b hb e => hq (by simp at hb; exact hb ▸ e ▸ ha)⟩,
    p.cNotIdle, fun u e m => (mem_snoc m).elim (p.cNotQueue u e) (fun e' => hc (e' ▸ e)), p.hNotIdle,
    fun u e m => (mem_snoc m).elim (p.hNotQueue u e) (fun e' => hh (e' ▸ e)), p.chDisj,
    fun u m m' => (mem_snoc m').elim (p.iqDisj u m) (fun e => hi (e ▸ m))⟩

theorem grow (p : Places n idle queue none h) : Places (n + 1) idle queue (some n) h :=
  ⟨fun u m => Nat.lt_succ_of_lt (p.idleLt u m), fun u m => Nat.lt_succ_of_lt (p.queueLt u m),
    fun _ e => Option.some.inj e ▸ Nat.lt_succ_self n, fun u e => Nat.lt_succ_of_lt (p.hHandLt u e), p.idleNodup, p.queueNodup,
    fun _ e m => Nat.lt_irrefl _ (Option.some.inj e ▸ p.idleLt _ m), fun _ e m => Nat.lt_irrefl _ (Option.some.inj e ▸ p.queueLt _ m),
    p.hNotIdle, p.hNotQueue, fun _ e e' => Nat.lt_irrefl _ (Option.some.inj e ▸ p.hHandLt _ e'), p.iqDisj⟩

end Places

/-- the jobs below `n` are those in `D` (delivered, or held by the handler) and those of the records, each once -/
structure Jobs (D : List (Option Nat)) (n size : Nat) (job : Nat → Option Nat) : Prop where
  jDel : ∀ x ∈ D, ∃ j, x = some j ∧ j < n
  jNodup : D.Nodup
  jThr : ∀ t j, t < size → job t = some j → j < n ∧ some j ∉ D
  jInj : ∀ t u j, t < size → u < size → job t = some j → job u = some j → t = u
  jAll : ∀ j, j < n → some j ∈ D ∨ ∃ t, t < size ∧ job t = some j

theorem Inv.jobs {s : St} (h : Inv s) :
    Jobs (s.delivered ++ hLoc s.hpc) (s.nextJob + pend s.cpc) s.thr.size (fun u => jobOf s.thr[u]!) :=
  ⟨h.jDel, h.jNodup, h.jThr, h.jInj, h.jAll⟩

namespace Jobs
variable {D : List (Option Nat)} {n size t j : Nat} {job job' : Nat → Option Nat}

theorem congr (a : Jobs D n size job) (e : ∀ u, job' u = job u) : Jobs D n size job' :=
  (funext e : job' = job) ▸ a

theorem grow (a : Jobs D n size job) (e : ∀ u, u < size → job' u = job u) (hn : job' size = none) :
    Jobs D n (size + 1) job' := by
  obtain ⟨a1, a2, a3, a4, a5⟩ := a
  constructor <;> grind

theorem assign (a : Jobs D n size job) (ht : t < size) (h0 : job t = none) (h1 : job' t = some n)
    (e : ∀ u, u ≠ t → job' u = job u) : Jobs D (n + 1) size job' := by
  obtain ⟨a1, a2, a3, a4, a5⟩ := a
  constructor <;> grind

theorem take (a : Jobs D n size job) (ht : t < size) (h0 : job t = some j) (h1 : job' t = none)
    (e : ∀ u, u ≠ t → job' u = job u) : Jobs (D ++ [some j]) n size job' := by
  obtain ⟨a1, a2, a3, a4, a5⟩ := a
  constructor <;> grind

end Jobs

/-- `th'` may stand where `th` stood: same job, same `isW`, every shape `th` has -/
structure Keeps (th th' : Thr) : Prop where
  job : jobOf th' = jobOf th
  isW : isW th' = isW th
  idle : SIdle th → SIdle th'
  ord : SOrd th → SOrd th'
  fin : SFin th → SFin th'
  work : SWork th → SWork th'
  kill : SKill th → SKill th' ∧ (th.pc = .exited → th'.pc = .exited)   -- the second part: `tPlace`, a joined record

theorem Keeps.refl (th : Thr) : Keeps th th := ⟨rfl, rfl, id, id, id, id, fun k => ⟨k, id⟩⟩

theorem SQ.imp {o : Bool} {th th' : Thr} (k : Keeps th th') (h : SQ o th) : SQ o th' := by
  unfold SQ at *; split at h
  · rename_i e; rw [if_pos e]; exact k.ord h
  · rename_i e; rw [if_neg e]; exact k.fin h

/-- the shape fields for an array that differs from the old one at `t` only, each for the places `t` is not at -/
structure Others (s : St) (t : Nat) (thr' : Array Thr) : Prop where
  tIdle : t ∉ s.idle → ∀ u, u ∈ s.idle → SIdle thr'[u]!
  tQueue : t ∉ s.queue → ∀ u, u ∈ s.queue → SQ s.ordered thr'[u]!
  tWait : hHand s.hpc ≠ some t →
    ∀ u a, s.hpc = .waitRes u a → SQ s.ordered thr'[u]! ∧ (a = true → thr'[u]!.running = true)
  tGive : hHand s.hpc ≠ some t → ∀ u r, s.hpc = .giveBack u r → SIdle thr'[u]!
  tAssign : cHand s.cpc s.ordered ≠ some t → ∀ u, s.cpc = .assign u → SIdle thr'[u]!
  tKill : cHand s.cpc s.ordered ≠ some t → ∀ u, s.cpc = .kill u → SIdle thr'[u]!
  tEnq : cHand s.cpc s.ordered ≠ some t →
    ∀ u, s.cpc = .enqueue u → s.ordered = true → SOrd thr'[u]! ∧ jobOf thr'[u]! = some s.nextJob
  tJoinW : cHand s.cpc s.ordered ≠ some t → ∀ u, s.cpc = .joinW u → SKill thr'[u]!

theorem Inv.others {s : St} (h : Inv s) {t : Nat} {thr' : Array Thr} (hne : ∀ u, u ≠ t → thr'[u]! = s.thr[u]!) :
    Others s t thr' where
  tIdle n u m := hne u (fun e => n (e ▸ m)) ▸ h.tIdle u m
  tQueue n u m := hne u (fun e => n (e ▸ m)) ▸ h.tQueue u m
  tWait n u a e := hne u (fun e' => n (hHand_eq_some.mpr (.inl ⟨a, e' ▸ e⟩))) ▸ h.tWait u a e
  tGive n u r e := hne u (fun e' => n (hHand_eq_some.mpr (.inr ⟨r, e' ▸ e⟩))) ▸ h.tGive u r e
  tAssign n u e := hne u (fun e' => n (cHand_eq_some.mpr (.inl (e' ▸ e)))) ▸ h.tAssign u e
  tKill n u e := hne u (fun e' => n (cHand_eq_some.mpr (.inr (.inr (.inl (e' ▸ e)))))) ▸ h.tKill u e
  tEnq n u e ho := hne u (fun e' => n (cHand_eq_some.mpr (.inr (.inl ⟨e' ▸ e, ho⟩)))) ▸ h.tEnq u e ho
  tJoinW n u e := hne u (fun e' => n (cHand_eq_some.mpr (.inr (.inr (.inr (e' ▸ e)))))) ▸ h.tJoinW u e

/-! A new invariant is written `{ p, j, h with … }`: the fields after `with` read what changed; the place and job fields
    are those of `p : Places …`, `j : Jobs …`; every other field is the old one (`h : Inv s`). -/

/-- `hr`: what a handler asleep on record `u` relies on (`tWait`, `a = true`); a queued running record is `SOrd` -/
theorem Inv.frame {s : St} (h : Inv s) {thr' : Array Thr} (hsz : thr'.size = s.thr.size) (hnw : nWork thr' = nWork s.thr)
    (hk : ∀ u : Nat, Keeps s.thr[u]! thr'[u]!)
    (hr : ∀ u : Nat, s.hpc = .waitRes u true → SOrd s.thr[u]! → (s.thr[u]!).running = true → (thr'[u]!).running = true) :
    Inv { s with thr := thr' } :=
  have hj : ∀ u, jobOf thr'[u]! = jobOf s.thr[u]! := fun u => (hk u).job
  have p : Places thr'.size s.idle s.queue _ _ := hsz ▸ h.places
  have j : Jobs _ _ thr'.size fun u => jobOf thr'[u]! := hsz ▸ h.jobs.congr hj
  { p, j, h with
    sizeMain := hsz ▸ h.sizeMain
    sizeDestroy := hsz ▸ h.sizeDestroy
    cnt := hsz ▸ hnw ▸ h.cnt
    nthr := hnw ▸ h.nthr
    tIdle := fun t m => (hk t).idle (h.tIdle t m)
    tAssign := fun t e => (hk t).idle (h.tAssign t e)
    tKill := fun t e => (hk t).idle (h.tKill t e)
    tEnq := fun t e ho => ⟨(hk t).ord (h.tEnq t e ho).1, (hj t).trans (h.tEnq t e ho).2⟩
    tQueue := fun t m => (h.tQueue t m).imp (hk t)
    tWait := fun t a e => ⟨(h.tWait t a e).1.imp (hk t), fun ha => by
      subst ha
      have := h.tWait t true e
      rcases this.1.cases with q | q
      · exact hr t e q (this.2 rfl)
      · exact absurd (this.2 rfl) (by simp [q.running])⟩
    tGive := fun t r e => (hk t).idle (h.tGive t r e)
    tJoinW := fun t e => ((hk t).kill (h.tJoinW t e)).1
    tPlace := fun t lt => (h.tPlace t (hsz ▸ lt)).imp id <| Or.imp id <| Or.imp id <| Or.imp id <|
      Or.imp (fun p => ⟨p.1, (hk t).work p.2⟩) fun p => ⟨((hk t).kill p.1).1, ((hk t).kill p.1).2 p.2.1, p.2.2⟩
    jOrd := fun ho => (jOrd_congr s.thr thr' _ _ _ (fun u _ => hj u) (fun u _ => hj u)).trans (h.jOrd ho) }

theorem Inv.setThr {s : St} (h : Inv s) (t : Nat) (f : Thr → Thr) (hk : Keeps s.thr[t]! (f s.thr[t]!))
    (hr : s.hpc = .waitRes t true → SOrd s.thr[t]! → (s.thr[t]!).running = true → (f s.thr[t]!).running = true) :
    Inv (setThr s t f) :=
  h.frame (Array.size_modify ..) (nWork_modify_eq _ t f hk.isW) (modify_rel _ t f Keeps.refl hk) fun u hu => by
    rw [get_modify]
    split
    · rename_i e; rw [e.1] at hu ⊢; exact hr hu
    · exact fun _ r => r

/-- The caller's pc goes from `c0` to `c`.  For concrete `c0`, `c` that look the same to `Inv` the first ten hypotheses
    hold by evaluation (the defaults); the last three are the fields that name `c` itself. -/
theorem Inv.setCpc {s : St} (h : Inv s) {c0 : CPc} (hc : s.cpc = c0) (c : CPc)
    (hH : cHand c s.ordered = cHand c0 s.ordered := by rfl) (hp : pend c = pend c0 := by rfl)
    (hU : pendU c s.ordered = pendU c0 s.ordered := by rfl) (hD : inDestroy c = inDestroy c0 := by rfl)
    (hA : afterFinish c = afterFinish c0 := by rfl) (hcr : c = .create ↔ c0 = .create := by simp)
    (has : ∀ t, c = .assign t → c0 = .assign t := by nofun) (hk : ∀ t, c = .kill t → c0 = .kill t := by nofun)
    (he : ∀ t, c = .enqueue t → c0 = .enqueue t := by nofun) (hjw : ∀ t, c = .joinW t → c0 = .joinW t := by nofun)
    (finish : c = .finish → s.nextJob = s.njobs := by nofun)
    (sleepNext : c = .next true → s.idle = [] ∧ s.count = s.max := by nofun)
    (sleepDestroy : c = .destroy true → s.idle = [] ∧ s.count ≠ 0 := by nofun) :
    Inv { s with cpc := c } := by
  subst hc
  have hfi := finish; have hn := sleepNext; have hd := sleepDestroy
  have p : Places _ _ _ (cHand c s.ordered) _ := hH ▸ h.places
  have j : Jobs _ (s.nextJob + pend c) _ _ := hp ▸ h.jobs
  exact { p, j, h with
    sizeMain := by simpa only [hD, hcr] using h.sizeMain
    sizeDestroy := hD ▸ hH ▸ h.sizeDestroy
    cnt := hD ▸ hH ▸ h.cnt
    nthr := hU ▸ h.nthr
    tAssign := fun t e => h.tAssign t (has t e)
    tKill := fun t e => h.tKill t (hk t e)
    tEnq := fun t e => h.tEnq t (he t e)
    tJoinW := fun t e => h.tJoinW t (hjw t e)
    tPlace := hD ▸ hH ▸ h.tPlace
    jobsLe := hp ▸ h.jobsLe
    jobsLt := fun e => h.jobsLt (e.imp hcr.mp fun ⟨t, e⟩ => ⟨t, has t e⟩)
    jobsDone := fun e => e.elim (fun e => h.jobsDone (.inl (hA ▸ e))) hfi
    finIff := hA ▸ h.finIff
    hExit := hA ▸ h.hExit
    destroyH := hD ▸ h.destroyH
    nextSleep := hn
    destroySleep := hd }

/-- The handler's pc goes from `p0` to `p`; defaults as in `Inv.setCpc`. -/
theorem Inv.setHpc {s : St} (h : Inv s) {p0 : HPc} (hh : s.hpc = p0) (p : HPc)
    (hH : hHand p = hHand p0 := by rfl) (hL : hLoc p = hLoc p0 := by rfl) (hJ : hJob p s.thr = hJob p0 s.thr := by rfl)
    (wait : ∀ t a, p = .waitRes t a → (∃ a0, p0 = .waitRes t a0) ∧ (a = true → (s.thr[t]!).running = true) := by nofun)
    (hg : ∀ t r, p = .giveBack t r → p0 = .giveBack t r := by nofun)
    (exit : p = .exited → afterFinish s.cpc = true ∧ s.queue = [] ∧ s.nthreads = 0 := by nofun)
    (exited : p0 = .exited → p = .exited := by nofun)
    (sleep : p = .deq true → s.queue = [] ∧ ¬ (s.finished = true ∧ s.nthreads = 0) := by nofun) :
    Inv { s with hpc := p } := by
  subst hh
  have hw := wait; have hx := exit; have hx' := exited; have hq := sleep
  have pl : Places _ _ _ _ (hHand p) := hH ▸ h.places
  have j : Jobs (s.delivered ++ hLoc p) _ _ _ := hL ▸ h.jobs
  exact { pl, j, h with
    cnt := hH ▸ h.cnt
    tWait := fun t a e => ⟨(hw t a e).1.elim fun a0 e0 => (h.tWait t a0 e0).1, (hw t a e).2⟩
    tGive := fun t r e => h.tGive t r (hg t r e)
    tPlace := hH ▸ h.tPlace
    hExit := hx
    destroyH := fun e => hx' (h.destroyH e)
    deqSleep := hq
    jOrd := hJ ▸ h.jOrd }


theorem Inv.wakeC {s : St} (h : Inv s) : Inv { s with cpc := wakeC s.cpc } := by
  rcases wakeC_cases s.cpc with e | ⟨hc, e⟩ | ⟨hc, e⟩ <;> rw [e]
  · exact h
  · exact h.setCpc hc _
  · exact h.setCpc hc _

theorem Inv.wakeDeq {s : St} (h : Inv s) : Inv { s with hpc := wakeDeq s.hpc } := by
  rcases wakeDeq_cases s.hpc with e | ⟨hh, e⟩ <;> rw [e]
  · exact h
  · exact h.setHpc hh _

theorem Inv.wakeWait {s : St} (h : Inv s) (t : Nat) : Inv { s with hpc := wakeWait t s.hpc } := by
  rcases wakeWait_cases t s.hpc with e | ⟨hh, e⟩ <;> rw [e]
  · exact h
  · exact h.setHpc hh _ (wait := fun _ _ e' => (HPc.waitRes.inj e').1 ▸ ⟨⟨true, rfl⟩, (HPc.waitRes.inj e').2 ▸ nofun⟩)

end Tp


/-! ## Part 6: every transition preserves the invariant

  A step that signals is the wake-up (Part 5) followed by the update. -/

namespace Tp

/- destructure the state (names not hygienic: `max` shadows the function in the rest of the proof), so that the pc
   becomes a constructor and the old fields have the new types by evaluation -/
set_option hygiene false in
macro "st_cases" s:ident : tactic => `(tactic|
  obtain ⟨max, njobs, ordered, thr, idle, count, queue, nthreads, finished, cpc, nextJob, hpc, delivered⟩ := $s)


theorem inv_create {s : St} (h : Inv s) (hc : s.cpc = .create) :
    Inv { s with thr := s.thr.push {}, cpc := .assign s.thr.size } := by
  st_cases s; simp only at hc; subst hc
  obtain ⟨hsz, hget, hne, hnw⟩ := push_spec thr {}
  generalize thr.push {} = thr' at *
  have hnw : nWork thr' = nWork thr := hnw  -- `isW {} = false` by evaluation
  have hlt : ∀ {u}, u < thr.size → thr'[u]! = thr[u]! := fun hu => hne _ (Nat.ne_of_lt hu)
  have p : Places thr'.size idle queue _ _ := hsz ▸ h.places.grow
  have j : Jobs _ _ thr'.size _ :=
    hsz ▸ h.jobs.grow (job' := fun u => jobOf thr'[u]!) (fun u hu => by rw [hlt hu]) (by rw [hget]; rfl)
  exact { p, j, h with
    sizeMain := fun _ => by
      have := h.sizeMain rfl
      simpa [hsz] using this
    sizeDestroy := nofun
    cnt := fun _ => by
      have := h.cnt rfl
      rw [hsz, hnw]
      simp only [cHand, o2n] at this ⊢
      omega
    nthr := hnw ▸ h.nthr
    tIdle := fun u m => hlt (h.idleLt u m) ▸ h.tIdle u m
    tAssign := fun u e => CPc.assign.inj e ▸ hget ▸ ⟨rfl, rfl, rfl, rfl, rfl⟩
    tKill := nofun
    tEnq := nofun
    tQueue := fun u m => hlt (h.queueLt u m) ▸ h.tQueue u m
    tWait := fun u a e => hlt (h.hHandLt u (hHand_eq_some.mpr (.inl ⟨a, e⟩))) ▸ h.tWait u a e
    tGive := fun u r e => hlt (h.hHandLt u (hHand_eq_some.mpr (.inr ⟨r, e⟩))) ▸ h.tGive u r e
    tJoinW := nofun
    tPlace := fun u hu => by
      by_cases e : u = thr.size
      · exact .inr (.inr (.inr (.inl (e ▸ rfl))))
      · have hu : u < thr.size + 1 := hsz ▸ hu
        rw [hne u e]
        exact (h.tPlace u (Nat.lt_of_le_of_ne (Nat.le_of_lt_succ hu) e)).imp id <| Or.imp id <| Or.imp id <| Or.imp nofun id
    jobsLt := fun _ => h.jobsLt (.inl rfl)
    jobsDone := (·.elim nofun nofun)
    nextSleep := nofun
    destroySleep := nofun
    jOrd := fun ho => by
      rw [jOrd_congr thr thr' _ _ _ (fun u m => by rw [hlt (h.queueLt u m)]) (fun u e => by rw [hlt (h.hHandLt u e)])]
      exact h.jOrd ho }

theorem inv_assign {s : St} (h : Inv s) {t : Nat} (hc : s.cpc = .assign t) :
    Inv { s with thr := s.thr.modify t fun th => wakeW { th with rq := !s.ordered, cb := some s.nextJob, running := true },
                 hpc := wakeWait t s.hpc, cpc := .enqueue t } := by
  st_cases s; simp only at hc; subst hc
  replace h := h.wakeWait t
  generalize wakeWait t hpc = hpc' at h
  obtain ⟨hsz, hget, hne, hnw⟩ := modify_spec thr t
    (fun th => wakeW { th with rq := !ordered, cb := some nextJob, running := true }) (h.cHandLt t rfl)
  generalize thr.modify t (fun th => wakeW { th with rq := !ordered, cb := some nextJob, running := true }) = thr' at *
  have hi : SIdle thr[t]! := h.tAssign t rfl
  -- the new record: awake at the loop head, running, carrying job `nextJob`
  have hp0 : (thr'[t]!).pc = .top false := by
    rw [hget]; exact wakeW_pc_of_top hi.top
  have hrest : (thr'[t]!).running = true ∧ (thr'[t]!).cb = some nextJob ∧ (thr'[t]!).res = none ∧ (thr'[t]!).rq = !ordered := by
    rw [hget]; simp [hi.res]
  have hjt : jobOf thr'[t]! = some nextJob := by simp [jobOf, hrest.2.1]
  have hj : ∀ u, u ≠ t → jobOf thr'[u]! = jobOf thr[u]! := fun u e => by rw [hne u e]
  have hw : nWork thr' = nWork thr + (if ordered then 0 else 1) := by
    have h1 : isW thr[t]! = false := by
      rcases (isTop_iff _).mp hi.top with e | e <;> simp [isW, hi.rq, e]
    have h2 : isW thr'[t]! = !ordered := by simp [isW, hp0, hrest.2.2.2]
    rw [← hget, h1, h2] at hnw
    cases ordered <;> simp at hnw ⊢ <;> omega
  have p : Places thr'.size idle queue (cHand (.enqueue t) ordered) _ :=
    hsz ▸ h.places.subC (fun u e => by cases ordered <;> simp_all [cHand])
  have j : Jobs _ _ thr'.size _ := hsz ▸ h.jobs.assign (job' := fun u => jobOf thr'[u]!) (h.cHandLt t rfl)
    hi.job hjt hj
  exact { p, j, h with
    sizeMain := by rw [hsz]; simpa [inDestroy] using h.sizeMain
    sizeDestroy := nofun
    cnt := fun _ => by
      have := h.cnt rfl
      rw [hsz, hw]
      cases ordered <;> simp [cHand, o2n] at this ⊢ <;> omega
    nthr := by
      have := h.nthr
      rw [hw]
      cases ordered <;> simp [pendU] at this ⊢ <;> omega
    tIdle := (h.others hne).tIdle (h.cNotIdle t rfl)
    tAssign := nofun
    tKill := nofun
    tEnq := fun u e ho => by
      cases e; subst ho
      exact ⟨⟨hrest.2.2.2, .inl ⟨.inl hp0, hrest.1, by simp [hrest.2.1], hrest.2.2.1⟩⟩, hjt⟩
    tQueue := (h.others hne).tQueue (h.cNotQueue t rfl)
    tWait := (h.others hne).tWait (h.chDisj t rfl)
    tGive := (h.others hne).tGive (h.chDisj t rfl)
    tJoinW := nofun
    tPlace := fun u hu => by
      by_cases e : u = t
      · subst e
        cases ordered
        · exact .inr (.inr (.inr (.inr (.inl ⟨rfl, .inl ⟨.inl hp0, hrest.1, by simp [hrest.2.1], hrest.2.2.1, hrest.2.2.2⟩⟩))))
        · exact .inr (.inr (.inr (.inl rfl)))
      · rw [hne u e]
        exact (h.tPlace u (hsz ▸ hu)).imp id <| Or.imp id <| Or.imp id <|
          Or.imp (fun e' => absurd (Option.some.inj e').symm e) id
    jobsLe := Nat.succ_le_of_lt (h.jobsLt (.inr ⟨t, rfl⟩))
    jobsLt := (·.elim nofun (fun ⟨_, e⟩ => nomatch e))
    jobsDone := (·.elim nofun nofun)
    nextSleep := nofun
    destroySleep := nofun
    jOrd := fun ho => by
      rw [jOrd_congr thr thr' _ _ _ (fun u m => hj u (fun e => h.cNotQueue t rfl (e ▸ m)))
        (fun u e => hj u (fun e' => h.chDisj t rfl (e' ▸ e)))]
      exact h.jOrd ho }

theorem inv_enqueueOrd {s : St} (h : Inv s) {t : Nat} (hc : s.cpc = .enqueue t) (ho : s.ordered = true) :
    Inv { s with nthreads := s.nthreads + 1, queue := s.queue ++ [t], hpc := wakeDeq s.hpc, cpc := .next false,
                 nextJob := s.nextJob + 1 } := by
  st_cases s; simp only at hc ho; subst hc ho
  have hns := wakeDeq_ne_sleep hpc
  replace h := h.wakeDeq
  generalize wakeDeq hpc = hpc' at h hns
  have p := h.places
  replace p := p.dropC.enq (p.cHandLt t rfl) (p.cNotIdle t rfl) (p.cNotQueue t rfl) nofun (p.chDisj t rfl)
  exact { p, h with
    sizeMain := by simpa [inDestroy] using h.sizeMain
    sizeDestroy := nofun
    cnt := fun _ => by
      have := h.cnt rfl
      simp only [cHand, o2n, List.length_append, List.length_cons, List.length_nil, ↓reduceIte] at this ⊢
      omega
    nthr := by
      have := h.nthr
      simp [pendU] at this ⊢
      omega
    tAssign := nofun
    tKill := nofun
    tEnq := nofun
    tQueue := fun u m => (mem_snoc m).elim (h.tQueue u) (· ▸ (h.tEnq t rfl rfl).1)
    tJoinW := nofun
    tPlace := fun u hu => by
      rcases h.tPlace u hu with m | m | m | m | m
      · exact .inl m
      · exact .inr (.inl (List.mem_append_left _ m))
      · exact .inr (.inr (.inl m))
      · cases m; exact .inr (.inl (List.mem_append_right _ (.head _)))
      · exact .inr (.inr (.inr (.inr m)))
    jobsLt := (·.elim nofun (fun ⟨_, e⟩ => nomatch e))
    jobsDone := (·.elim nofun nofun)
    hExit := fun e => nomatch (h.hExit e).1
    deqSleep := fun e => absurd e hns
    nextSleep := nofun
    destroySleep := nofun
    jOrd := fun _ => by
      rw [List.range_succ, List.map_append, List.map_append, ← List.append_assoc, h.jOrd rfl]
      simp only [List.map_cons, List.map_nil, (h.tEnq t rfl rfl).2] }

theorem inv_kill {s : St} (h : Inv s) {t : Nat} (hc : s.cpc = .kill t) :
    Inv { s with thr := s.thr.modify t fun th => wakeW { th with running := true }, hpc := wakeWait t s.hpc,
                 cpc := .joinW t } := by
  st_cases s; simp only at hc; subst hc
  replace h := h.wakeWait t
  generalize wakeWait t hpc = hpc' at h
  obtain ⟨hsz, hget, hne, hnw⟩ := modify_spec thr t (fun th => wakeW { th with running := true }) (h.cHandLt t rfl)
  generalize thr.modify t (fun th => wakeW { th with running := true }) = thr' at *
  have hi : SIdle thr[t]! := h.tKill t rfl
  have hk : SKill thr'[t]! := by
    rw [hget]
    exact ⟨.inl (wakeW_pc_of_top hi.top), by simp, by simp [hi.cb], by simp [hi.res], by simp [hi.rq]⟩
  have hj : ∀ u, jobOf thr'[u]! = jobOf thr[u]! := fun u => by
    by_cases e : u = t
    · rw [e, hget, jobOf_wakeW]; rfl
    · rw [hne u e]
  have hw : nWork thr' = nWork thr := by
    rw [isW_wakeW] at hnw
    have : isW { thr[t]! with running := true } = isW thr[t]! := rfl
    rw [this] at hnw; omega
  have p : Places thr'.size idle queue _ _ := hsz ▸ h.places
  have j : Jobs _ _ thr'.size _ := hsz ▸ h.jobs.congr hj
  exact { p, j, h with
    sizeMain := nofun
    sizeDestroy := hsz ▸ h.sizeDestroy
    cnt := nofun
    nthr := hw ▸ h.nthr
    tIdle := (h.others hne).tIdle (h.cNotIdle t rfl)
    tAssign := nofun
    tKill := nofun
    tEnq := nofun
    tQueue := (h.others hne).tQueue (h.cNotQueue t rfl)
    tWait := (h.others hne).tWait (h.chDisj t rfl)
    tGive := (h.others hne).tGive (h.chDisj t rfl)
    tJoinW := fun u e => CPc.joinW.inj e ▸ hk
    tPlace := fun u hu => by
      by_cases e : u = t
      · exact .inr (.inr (.inr (.inl (e ▸ rfl))))
      · rw [hne u e]; exact h.tPlace u (hsz ▸ hu)
    jobsLt := (·.elim nofun (fun ⟨_, e⟩ => nomatch e))
    jobsDone := fun _ => h.jobsDone (.inl rfl)
    nextSleep := nofun
    destroySleep := nofun
    jOrd := fun ho => (jOrd_congr thr thr' _ _ _ (fun u _ => hj u) (fun u _ => hj u)).trans (h.jOrd ho) }

theorem inv_waitTake {s : St} (h : Inv s) {t : Nat} (hh : s.hpc = .waitRes t false) (hr : s.thr[t]!.running = false) :
    Inv { s with thr := s.thr.modify t fun th => { th with res := none }, hpc := .giveBack t s.thr[t]!.res } := by
  st_cases s; simp only at hh hr; subst hh
  obtain ⟨hsz, hget, hne, hnw⟩ := modify_spec thr t (fun th => { th with res := none }) (h.hHandLt t rfl)
  generalize thr.modify t (fun th => { th with res := none }) = thr' at *
  -- the record waited for is not running any more: its result is ready
  have hs : SFin thr[t]! := by
    rcases (h.tWait t false rfl).1.cases with o | f
    · rcases o.2 with q | q | q
      · simp [hr] at q
      · simp [hr] at q
      · exact ⟨q.1, q.2.1, q.2.2.1, q.2.2.2, o.1⟩
    · exact f
  obtain ⟨j, hj⟩ : ∃ j, thr[t]!.res = some j := Option.ne_none_iff_exists'.mp hs.res
  have hjo : jobOf thr[t]! = some j := by simp [jobOf, hs.cb, hj]
  have hi : SIdle thr'[t]! := by rw [hget]; exact ⟨hs.1, hs.running, hs.cb, rfl, hs.rq⟩
  have hjn : ∀ u, u ≠ t → jobOf thr'[u]! = jobOf thr[u]! := fun u e => by rw [hne u e]
  have hw : nWork thr' = nWork thr := by
    have : isW { thr[t]! with res := none } = isW thr[t]! := rfl
    rw [this] at hnw; omega
  have j' : Jobs (delivered ++ [some j]) (nextJob + pend cpc) thr'.size (fun u => jobOf thr'[u]!) := by
    have j0 : Jobs delivered (nextJob + pend cpc) thr.size (fun u => jobOf thr[u]!) := List.append_nil delivered ▸ h.jobs
    exact hsz ▸ j0.take (h.hHandLt t rfl) hjo (by rw [hget]; simp [jobOf, hs.cb]) hjn
  have p : Places thr'.size idle queue _ _ := hsz ▸ h.places
  have hc : cHand cpc ordered ≠ some t := fun e => h.chDisj t e rfl
  rw [hj]  -- the result taken, in the goal's `giveBack t _`
  exact { p, j', h with
    sizeMain := hsz ▸ h.sizeMain
    sizeDestroy := hsz ▸ h.sizeDestroy
    cnt := hsz ▸ hw ▸ h.cnt
    nthr := hw ▸ h.nthr
    tIdle := (h.others hne).tIdle (h.hNotIdle t rfl)
    tAssign := (h.others hne).tAssign hc
    tKill := (h.others hne).tKill hc
    tEnq := (h.others hne).tEnq hc
    tQueue := (h.others hne).tQueue (h.hNotQueue t rfl)
    tWait := nofun
    tGive := fun u r e => (HPc.giveBack.inj e).1 ▸ hi
    tJoinW := (h.others hne).tJoinW hc
    tPlace := fun u hu => by
      by_cases e : u = t
      · exact .inr (.inr (.inl (e ▸ rfl)))
      · rw [hne u e]; exact h.tPlace u (hsz ▸ hu)
    hExit := nofun
    destroyH := fun e => nomatch h.destroyH e
    deqSleep := nofun
    jOrd := fun ho => by
      rw [List.map_congr_left (fun u m => hjn u (fun e => h.hNotQueue t rfl (e ▸ m))), ← hjo]
      exact h.jOrd ho }

theorem inv_wEnq {s : St} (h : Inv s) {t : Nat} (ht : t < s.thr.size) (hp : (s.thr[t]!).pc = .selfEnq) :
    Inv { s with thr := s.thr.modify t fun th => { th with pc := .top false }, queue := s.queue ++ [t],
                 hpc := wakeDeq s.hpc } := by
  obtain ⟨hni, hnq, hnh, hnc, ho, hs⟩ := h.selfEnq ht hp
  st_cases s; simp only at ht hp hni hnq hnh hnc ho hs; subst ho
  have hns := wakeDeq_ne_sleep hpc
  replace hnh : hHand (wakeDeq hpc) ≠ some t := by rwa [hHand_wakeDeq]
  replace h := h.wakeDeq
  generalize wakeDeq hpc = hpc' at h hns hnh
  obtain ⟨hsz, hget, hne, hnw⟩ := modify_spec thr t (fun th => { th with pc := .top false }) ht
  generalize thr.modify t (fun th => { th with pc := .top false }) = thr' at *
  have hs' : thr[t]!.running = false ∧ thr[t]!.cb = none ∧ thr[t]!.res ≠ none ∧ thr[t]!.rq = false := by
    rcases hs with ⟨q, _⟩ | ⟨_, q⟩
    · rcases q with q | q <;> simp [hp] at q
    · exact q
  have hf : SFin thr'[t]! := by rw [hget]; exact ⟨rfl, hs'.1, hs'.2.1, hs'.2.2.1, hs'.2.2.2⟩
  have hj : ∀ u, jobOf thr'[u]! = jobOf thr[u]! := fun u => by
    by_cases e : u = t
    · rw [e, hget]; rfl
    · rw [hne u e]
  have hw : nWork thr' + 1 = nWork thr := by
    have h1 : isW thr[t]! = true := by simp [isW, hp]
    have h2 : isW { thr[t]! with pc := .top false } = false := by simp [isW, hs'.2.2.2]
    rw [h1, h2] at hnw; simpa using hnw
  have p : Places thr'.size idle (queue ++ [t]) _ _ := hsz ▸ h.places.enq ht hni hnq hnc hnh
  have j : Jobs _ _ thr'.size _ := hsz ▸ h.jobs.congr hj
  exact { p, j, h with
    sizeMain := hsz ▸ h.sizeMain
    sizeDestroy := hsz ▸ h.sizeDestroy
    cnt := fun e => by
      have := h.cnt e
      simp only [List.length_append, List.length_cons, List.length_nil] at this ⊢
      omega
    nthr := by
      have := h.nthr
      simp only [List.length_append, List.length_cons, List.length_nil] at this ⊢
      omega
    tIdle := (h.others hne).tIdle hni
    tAssign := (h.others hne).tAssign hnc
    tKill := (h.others hne).tKill hnc
    tEnq := nofun
    tQueue := fun u m => (mem_snoc m).elim ((h.others hne).tQueue hnq u) (· ▸ hf)
    tWait := (h.others hne).tWait hnh
    tGive := (h.others hne).tGive hnh
    tJoinW := (h.others hne).tJoinW hnc
    tPlace := fun u hu => by
      by_cases e : u = t
      · exact .inr (.inl (e ▸ List.mem_append_right _ (.head _)))
      · rw [hne u e]
        exact (h.tPlace u (hsz ▸ hu)).imp id <| Or.imp (List.mem_append_left _) id
    hExit := fun e => by
      -- the handler cannot have exited: thread `t` is still counted in `nthreads`
      obtain ⟨h1, h2, h3⟩ := h.hExit e
      have := h.nthr
      simp only at h2 h3
      rw [pendU_afterFinish h1, h2, h3] at this
      simp at this; omega
    deqSleep := fun e => absurd e hns
    jOrd := nofun }

theorem inv_step {s s' : St} {l : Lbl} (h : Inv s) (hs : step s l = some s') : Inv s' := by
  cases Step.of_step hs with
  | nextDone hc hj =>
    have := h.jobsLe
    exact h.setCpc hc _ (finish := fun _ => by omega)
  | @nextTake t rest hc hj hi =>
    st_cases s; simp only at hc hi hj; subst hc hi
    have p := h.places.popIdle
    exact { p, h with
      sizeMain := by simpa [inDestroy] using h.sizeMain
      sizeDestroy := nofun
      cnt := fun _ => by
        have := h.cnt rfl
        simp only [cHand, o2n, List.length_cons] at this ⊢
        omega
      tIdle := fun u hu => h.tIdle u (.tail _ hu)
      tAssign := fun u e => CPc.assign.inj e ▸ h.tIdle t (.head _)
      tKill := nofun
      tEnq := nofun
      tJoinW := nofun
      tPlace := fun u hu => Places.popIdle_place (h.tPlace u hu)
      jobsLt := fun _ => hj
      jobsDone := (·.elim nofun nofun)
      nextSleep := nofun
      destroySleep := nofun }
  | nextSleep hc _ hi hm =>
    exact h.setCpc hc _ (sleepNext := fun _ => ⟨hi, hm⟩)
  | nextGrow hc hj _ hm =>
    st_cases s; simp only at hc hj hm; subst hc
    exact { h with
      countLe := Nat.lt_of_le_of_ne h.countLe hm
      sizeMain := fun _ => by simpa using h.sizeMain rfl
      sizeDestroy := nofun
      tAssign := nofun
      tKill := nofun
      tEnq := nofun
      tJoinW := nofun
      jobsLt := fun _ => hj
      jobsDone := (·.elim nofun nofun)
      nextSleep := nofun
      destroySleep := nofun }
  | create hc => exact inv_create h hc
  | assign hc => exact inv_assign h hc
  | enqueueOrd hc ho => exact inv_enqueueOrd h hc ho
  | @enqueueUnord t hc ho =>
    st_cases s; simp only at hc ho; subst hc ho
    exact { h with
      sizeMain := by simpa [inDestroy] using h.sizeMain
      sizeDestroy := nofun
      nthr := by  -- `nthreads` catches up with the `1` that `pendU` stood for
        have := h.nthr
        simp [pendU] at this ⊢
        omega
      tAssign := nofun
      tKill := nofun
      tEnq := nofun
      tJoinW := nofun
      jobsLt := (·.elim nofun (fun ⟨_, e⟩ => nomatch e))
      jobsDone := (·.elim nofun nofun)
      hExit := fun e => nomatch (h.hExit e).1
      -- `nthreads + 1` may be 0, but the queue is not finished yet
      deqSleep := fun e => ⟨(h.deqSleep e).1, fun f => nomatch h.finIff.symm.trans f.1⟩
      nextSleep := nofun
      destroySleep := nofun
      jOrd := nofun }
  | finish hc =>
    st_cases s; simp only at hc; subst hc
    have hns := wakeDeq_ne_sleep hpc
    replace h := h.wakeDeq
    generalize wakeDeq hpc = hpc' at h hns
    exact { h with
      sizeMain := by simpa [inDestroy] using h.sizeMain
      sizeDestroy := nofun
      tAssign := nofun
      tKill := nofun
      tEnq := nofun
      tJoinW := nofun
      jobsLt := (·.elim nofun (fun ⟨_, e⟩ => nomatch e))
      jobsDone := fun _ => h.jobsDone (.inr rfl)
      finIff := rfl
      hExit := fun e => nomatch (h.hExit e).1
      destroyH := nofun
      deqSleep := fun e => absurd e hns
      nextSleep := nofun
      destroySleep := nofun }
  | joinH hc hh =>
    st_cases s; simp only at hc hh; subst hc hh
    exact { h with
      sizeMain := nofun
      sizeDestroy := fun _ => by
        -- all threads are idle: the handler has exited with an empty queue and `nthreads = 0`
        have h1 := h.sizeMain rfl
        have h2 := h.cnt rfl
        have h3 := h.nthr
        obtain ⟨_, hq, hn⟩ := h.hExit rfl
        simp only at hq hn
        subst hq hn
        simp [hHand, cHand, o2n, pendU] at h1 h2 h3 ⊢
        omega
      cnt := nofun
      tAssign := nofun
      tKill := nofun
      tEnq := nofun
      tJoinW := nofun
      tPlace := fun u hu =>
        (h.tPlace u hu).imp id <| Or.imp id <| Or.imp id <| Or.imp id <| Or.imp id (fun p => nomatch p.2.2)
      jobsLt := (·.elim nofun (fun ⟨_, e⟩ => nomatch e))
      jobsDone := fun _ => h.jobsDone (.inl rfl)
      destroyH := fun _ => rfl
      nextSleep := nofun
      destroySleep := nofun }
  | destroyDone hc _ =>
    exact h.setCpc hc _
  | destroySleep hc h0 hi =>
    exact h.setCpc hc _ (sleepDestroy := fun _ => ⟨hi, h0⟩)
  | @destroyTake t rest hc _ hi =>
    st_cases s; simp only at hc hi; subst hc hi
    have p := h.places.popIdle
    exact { p, h with
      sizeMain := nofun
      sizeDestroy := fun _ => by
        have := h.sizeDestroy rfl
        simp only [cHand, o2n, List.length_cons] at this ⊢
        omega
      cnt := nofun
      tIdle := fun u hu => h.tIdle u (.tail _ hu)
      tAssign := nofun
      tKill := fun u e => CPc.kill.inj e ▸ h.tIdle t (.head _)
      tEnq := nofun
      tJoinW := nofun
      tPlace := fun u hu => Places.popIdle_place (h.tPlace u hu)
      jobsLt := (·.elim nofun (fun ⟨_, e⟩ => nomatch e))
      jobsDone := fun _ => h.jobsDone (.inl rfl)
      nextSleep := nofun
      destroySleep := nofun }
  | kill hc => exact inv_kill h hc
  | @joinW t hc he =>
    st_cases s; simp only at hc he; subst hc
    have p := h.places.dropC
    exact { p, h with
      countLe := Nat.le_trans (Nat.sub_le ..) h.countLe
      sizeMain := nofun
      sizeDestroy := fun _ => by
        have := h.sizeDestroy rfl
        simp only [cHand, o2n] at this ⊢
        omega
      cnt := nofun
      tAssign := nofun
      tKill := nofun
      tEnq := nofun
      tJoinW := nofun
      tPlace := fun u hu => (h.tPlace u hu).imp id <| Or.imp id <| Or.imp id fun q => q.elim
        (fun e => .inr (.inr (Option.some.inj e ▸ ⟨h.tJoinW t rfl, he, rfl⟩))) .inr
      jobsLt := (·.elim nofun (fun ⟨_, e⟩ => nomatch e))
      jobsDone := fun _ => h.jobsDone (.inl rfl)
      nextSleep := nofun
      destroySleep := nofun }
  | @deqTake t rest hh hq =>
    st_cases s; simp only at hh hq; subst hh hq
    have p := h.places.popQueue
    exact { p, h with
      cnt := fun e => by
        have := h.cnt e
        simp only [hHand, o2n, List.length_cons] at this ⊢
        omega
      nthr := by
        have := h.nthr
        simp only [List.length_cons] at this ⊢
        omega
      tQueue := fun u hu => h.tQueue u (.tail _ hu)
      tWait := fun u a e => (HPc.waitRes.inj e).1 ▸ ⟨h.tQueue t (.head _), (HPc.waitRes.inj e).2 ▸ nofun⟩
      tGive := nofun
      tPlace := fun u hu => by
        rcases h.tPlace u hu with m | m | m
        · exact .inl m
        · rcases List.mem_cons.mp m with rfl | m
          · exact .inr (.inr (.inl rfl))
          · exact .inr (.inl m)
        · exact .inr (.inr (m.imp nofun id))
      hExit := nofun
      destroyH := fun e => nomatch h.destroyH e
      deqSleep := nofun
      jOrd := fun ho => by simpa [hJob] using h.jOrd ho }
  | deqExit hh hq hf =>
    exact h.setHpc hh _ (exit := fun _ => ⟨h.finIff.symm.trans hf.1, hq, hf.2⟩)
  | deqSleep hh hq hf =>
    exact h.setHpc hh _ (sleep := fun _ => ⟨hq, hf⟩)
  | waitSleep hh hr =>
    exact h.setHpc hh _ (wait := fun _ _ e => (HPc.waitRes.inj e).1 ▸ ⟨⟨false, rfl⟩, fun _ => hr⟩)
  | waitTake hh hr => exact inv_waitTake h hh hr
  | @giveBack t r hh =>
    st_cases s; simp only at hh; subst hh
    have hn1 := wakeC_ne_next cpc
    have hn2 := wakeC_ne_destroy cpc
    replace h := h.wakeC
    generalize wakeC cpc = cpc' at h hn1 hn2
    have p := h.places.toIdle
    exact { p, h with
      sizeDestroy := fun e => nomatch h.destroyH e
      cnt := fun e => by
        have := h.cnt e
        simp only [hHand, o2n, List.length_cons] at this ⊢
        omega
      tIdle := fun u hu => (List.mem_cons.mp hu).elim (· ▸ h.tGive t r rfl) (h.tIdle u)
      tWait := nofun
      tGive := nofun
      tPlace := fun u hu => by
        rcases h.tPlace u hu with m | m | m | m
        · exact .inl (.tail _ m)
        · exact .inr (.inl m)
        · cases m; exact .inl (.head _)
        · exact .inr (.inr (.inr m))
      hExit := nofun
      destroyH := fun e => nomatch h.destroyH e
      deqSleep := nofun
      nextSleep := fun e => absurd e hn1
      destroySleep := fun e => absurd e hn2 }
  | @callback r hh =>
    st_cases s; simp only at hh; subst hh
    -- `hLoc (.callback r) = [r]` by evaluation; afterwards `r` is delivered and `hLoc` is empty
    have j : Jobs (delivered ++ [r]) (nextJob + pend cpc) thr.size (fun u => jobOf thr[u]!) := h.jobs
    rw [← List.append_nil (delivered ++ [r])] at j
    exact { j, h with
      tWait := nofun
      tGive := nofun
      hExit := nofun
      destroyH := fun e => nomatch h.destroyH e
      deqSleep := nofun
      jOrd := fun ho => by simpa [hJob] using h.jOrd ho }
  | wGo _ hp hr =>  -- running at `top false`: first disjunct of `SOrd`/`SWork`/`SKill`, `top false` to `gotJob`
    refine h.setThr _ _ ⟨rfl, isW_congr rfl (by simp [hp]), ?_, ?_, ?_, ?_, ?_⟩ ?_ <;>
      simp +contextual [SIdle, SOrd, SFin, SWork, SKill, isTop, hp, hr]
  | wSleep _ hp hr =>  -- not running: `SIdle`, `SFin` or the last disjunct of `SOrd`, all `isTop`
    refine h.setThr _ _ ⟨rfl, isW_congr rfl (by simp [hp]), ?_, ?_, ?_, ?_, ?_⟩ ?_ <;>
      simp +contextual [SIdle, SOrd, SFin, SWork, SKill, isTop, hp, hr]
  | wExit _ hp hcb =>  -- `gotJob` without a callback: only `SKill`, which allows `exited`
    refine h.setThr _ _ ⟨rfl, isW_congr rfl (by simp [hp]), ?_, ?_, ?_, ?_, ?_⟩ ?_ <;>
      simp +contextual [SIdle, SOrd, SFin, SWork, SKill, isTop, hp, hcb]
  | wRunUnord _ hp hcb hrq =>  -- `SWork`, first disjunct to second; `isW` stays true through `pc = selfEnq`
    refine h.setThr _ _ ⟨?_, ?_, ?_, ?_, ?_, ?_, ?_⟩ ?_ <;>
      simp +contextual [jobOf, isW, SIdle, SOrd, SFin, SWork, SKill, isTop, hp, hcb, hrq]
  | wRunOrd _ hp hcb hrq =>  -- `SOrd`, first disjunct to second
    refine h.setThr _ _ ⟨?_, isW_congr rfl (by simp [hp]), ?_, ?_, ?_, ?_, ?_⟩ ?_ <;>
      simp +contextual [jobOf, SIdle, SOrd, SFin, SWork, SKill, isTop, hp, hcb, hrq]
  | wEnq ht hp => exact inv_wEnq h ht hp
  | @wDone t _ hp =>
    -- the signal first (a handler asleep on this thread wakes), then the record: `wakeW` does nothing
    refine (h.wakeWait t).setThr t (fun th => wakeW { th with running := false, pc := .top false })
      ⟨rfl, isW_congr rfl (by simp [wakeW, hp]), ?_, ?_, ?_, ?_, ?_⟩ ?_ <;>
      simp +contextual [wakeW, SIdle, SOrd, SFin, SWork, SKill, isTop, hp, wakeWait_ne_sleep]
  | spCaller _ => exact h.wakeC
  | spDeq hh => have := h.wakeDeq; rwa [hh] at this
  | @spWait t hh => have := h.wakeWait t; rwa [hh, wakeWait, if_pos rfl] at this
  | spWorker _ hp =>  -- every shape with `isTop` allows `top false`
    refine h.setThr _ _ ⟨rfl, isW_congr rfl (by simp [hp]), ?_, ?_, ?_, ?_, ?_⟩ ?_ <;>
      simp +contextual [SIdle, SOrd, SFin, SWork, SKill, isTop, hp]


theorem inv_init (max njobs : Nat) (ordered : Bool) (hm : 1 ≤ max) : Inv (init max njobs ordered) := by
  constructor <;> simp [init, inDestroy, cHand, hHand, hLoc, hJob, pend, pendU, afterFinish, nWork, o2n]
  all_goals first | omega | skip


theorem inv_reachable {max njobs : Nat} {ordered : Bool} (hm : 1 ≤ max) {s : St}
    (hr : Reachable max njobs ordered s) : Inv s := by
  induction hr with
  | init => exact inv_init max njobs ordered hm
  | step _ hs ih => exact inv_step ih hs

end Tp


/-! ## Part 7: C13 bound / once / order / complete -/

namespace Tp

variable {max njobs : Nat} {ordered : Bool} {s : St}

/-- the pool never has more worker threads than its maximum -/
theorem C13_bound (hm : 1 ≤ max) (hr : Reachable max njobs ordered s) : s.count ≤ s.max :=
  (inv_reachable hm hr).countLe

/-- bookkeeping of `count` against the thread records that exist:
    * dispatch phase: `thr.size = count`, except between `count++` and `pthread_create` (`cpc = .create`)
      where `thr.size + 1 = count`;
    * destroy phase (`cpc = destroy _ / kill _ / joinW _ / done`): `count` = number of idle threads plus
      the one being killed/joined, and `count ≤ thr.size` (joined records are not removed from `thr`). -/
theorem C13_bookkeeping (hm : 1 ≤ max) (hr : Reachable max njobs ordered s) :
    (s.cpc = .create → s.thr.size + 1 = s.count) ∧
    (inDestroy s.cpc = false → s.cpc ≠ .create → s.thr.size = s.count) ∧
    (inDestroy s.cpc = true →
      s.count = s.idle.length + (match s.cpc with | .kill _ => 1 | .joinW _ => 1 | _ => 0) ∧ s.count ≤ s.thr.size) := by
  have h := inv_reachable hm hr
  refine ⟨fun hc => ?_, fun hd hc => ?_, fun hd => ?_⟩
  · have := h.sizeMain (by simp [hc, inDestroy]); simpa [hc] using this
  · have := h.sizeMain hd; simpa [hc] using this
  · have := h.sizeDestroy hd
    revert this hd
    rcases s.cpc with (_|_)|_|_|_|_|_|(_|_)|_|_|_ <;> simp [inDestroy, cHand, o2n]

/-- The bound `j < s.nextJob` for every delivered `j` is false in the model for `ordered = false`: `nextJob` is incremented in
    the `.enqueue` step, after `.assign` has already handed job `nextJob` to the worker, which can finish and be
    delivered before the caller takes its next step. -/
theorem C13_once_counterexample :
    let s := runSched (init 1 1 false)
      [.run .caller, .run .caller, .run .caller, .run (.worker 0), .run (.worker 0), .run (.worker 0),
       .run .handler, .run .handler, .run .handler, .run .handler]
    s.delivered = [some 0] ∧ s.nextJob = 0 ∧ s.cpc = .enqueue 0 := by decide

/- the statement with that bound (FALSE for ordered = false, see `C13_once_counterexample`):
theorem C13_once : (∀ x ∈ s.delivered, ∃ j, x = some j ∧ j < s.nextJob) ∧ s.delivered.Nodup -/

/-- every delivered result is `some j` for a submitted job `j` (`j < nextJob`, or `j = nextJob` in the window where
    an unordered dispatch has handed the job to the worker but not yet counted it), `j < njobs`, and no result is
    delivered twice -/
theorem C13_once_partial (hm : 1 ≤ max) (hr : Reachable max njobs ordered s) :
    (∀ x ∈ s.delivered, ∃ j, x = some j ∧ j < s.njobs ∧
        (j < s.nextJob ∨ (s.ordered = false ∧ (∃ t, s.cpc = .enqueue t) ∧ j = s.nextJob))) ∧
    s.delivered.Nodup := by
  have h := inv_reachable hm hr
  refine ⟨fun x hx => ?_, (List.nodup_append.mp h.jNodup).1⟩
  obtain ⟨j, rfl, hj⟩ := h.jDel x (List.mem_append_left _ hx)
  refine ⟨j, rfl, by have := h.jobsLe; omega, ?_⟩
  cases ho : s.ordered
  · by_cases hc : ∃ t, s.cpc = .enqueue t
    · obtain ⟨t, ht⟩ := hc
      simp only [ht, pend] at hj
      by_cases hj' : j < s.nextJob
      · exact .inl hj'
      · exact .inr ⟨rfl, ⟨t, ht⟩, by omega⟩
    · left
      have : pend s.cpc = 0 := by
        revert hc; rcases s.cpc with (_|_)|_|_|_|_|_|(_|_)|_|_|_ <;> simp [pend]
      omega
  · left
    have := h.jOrd ho
    have hx' : some j ∈ (List.range s.nextJob).map some := by
      rw [← this]; simp [hx]
    simpa using hx'

/-- ordered dispatch: the bound `j < nextJob` holds -/
theorem C13_once_ordered (hm : 1 ≤ max) (hr : Reachable max njobs ordered s) (ho : s.ordered = true) :
    (∀ x ∈ s.delivered, ∃ j, x = some j ∧ j < s.nextJob) ∧ s.delivered.Nodup := by
  obtain ⟨h1, h2⟩ := C13_once_partial hm hr
  refine ⟨fun x hx => ?_, h2⟩
  obtain ⟨j, rfl, _, hj | ⟨hf, _⟩⟩ := h1 x hx
  · exact ⟨j, rfl, hj⟩
  · simp [ho] at hf

theorem prefix_range {l r : List (Option Nat)} {n : Nat} (h : l ++ r = (List.range n).map some) :
    l = (List.range l.length).map some := by
  have hl : l.length ≤ n := by
    have := congrArg List.length h
    simp at this; omega
  have : l = List.take l.length (l ++ r) := (List.take_left' rfl).symm
  rw [h, ← List.map_take, List.take_range, Nat.min_eq_left hl] at this
  exact this

/-- ordered dispatch delivers the results in submission order -/
theorem C13_order (hm : 1 ≤ max) (hr : Reachable max njobs ordered s) (ho : s.ordered = true) :
    s.delivered = (List.range s.delivered.length).map some := by
  have h := (inv_reachable hm hr).jOrd ho
  rw [List.append_assoc] at h
  exact prefix_range h

theorem perm_range {l : List (Option Nat)} {n : Nat} (hn : l.Nodup)
    (h1 : ∀ x ∈ l, ∃ j, x = some j ∧ j < n) (h2 : ∀ j, j < n → some j ∈ l) :
    l.Perm ((List.range n).map some) := by
  have hn2 : ((List.range n).map some).Nodup :=
    List.Pairwise.map some (fun a b h => by simpa using h) List.nodup_range
  rw [List.perm_iff_count]
  intro a
  have c1 := List.nodup_iff_count.mp hn a
  have c2 := List.nodup_iff_count.mp hn2 a
  by_cases ha : a ∈ l
  · have : a ∈ (List.range n).map some := by
      obtain ⟨j, rfl, hj⟩ := h1 a ha
      simp [hj]
    have p1 := List.count_pos_iff.mpr ha
    have p2 := List.count_pos_iff.mpr this
    omega
  · have : a ∉ (List.range n).map some := by
      intro hm
      simp only [List.mem_map, List.mem_range] at hm
      obtain ⟨j, hj, rfl⟩ := hm
      exact ha (h2 j hj)
    rw [List.count_eq_zero.mpr ha, List.count_eq_zero.mpr this]

/-- at termination the delivered results are exactly the job ids `0 … njobs-1`, each once -/
theorem C13_complete_perm (hm : 1 ≤ max) (hr : Reachable max njobs ordered s) (ht : terminated s = true) :
    s.delivered.Perm ((List.range s.njobs).map some) := by
  have h := inv_reachable hm hr
  have hc : s.cpc = .done := by simpa [terminated] using ht
  have hd : inDestroy s.cpc = true := by simp [hc, inDestroy]
  have hh := h.destroyH hd
  have hn : s.nextJob = s.njobs := h.jobsDone (by simp [hc, afterFinish])
  have hq := (h.hExit hh).2
  have hnw : nWork s.thr = 0 := by
    have := h.nthr; simp [hc, pendU, hq.1, hq.2] at this; omega
  -- no record carries a job any more
  have hjob : ∀ t, t < s.thr.size → jobOf s.thr[t]! = none := by
    intro t ht
    rcases h.tPlace t ht with p | p | p | p | p | p
    · exact (h.tIdle t p).job
    · simp [hq.1] at p
    · simp [hh, hHand] at p
    · simp [hc, cHand] at p
    · have := nWork_zero _ hnw t ht
      rcases p.2 with q | q <;> simp [isW, q] at this
    · simp [jobOf, p.1.2.2.1, p.1.2.2.2.1]
  have hdel : s.delivered ++ hLoc s.hpc = s.delivered := by simp [hh, hLoc]
  have hp : pend s.cpc = 0 := by simp [hc, pend]
  apply perm_range
  · have := h.jNodup; rwa [hdel] at this
  · intro x hx
    have := h.jDel x (by rw [hdel]; exact hx)
    rw [hp, hn] at this; exact this
  · intro j hj
    rcases h.jAll j (by rw [hp, hn]; exact hj) with q | ⟨t, ht, q⟩
    · rwa [hdel] at q
    · rw [hjob t ht] at q; cases q

theorem C13_complete (hm : 1 ≤ max) (hr : Reachable max njobs ordered s) (ht : terminated s = true) :
    s.delivered.length = s.njobs := by
  have := (C13_complete_perm hm hr ht).length_eq
  simpa using this

/-- ordered dispatch, at termination: exactly `[some 0, …, some (njobs-1)]` -/
theorem C13_complete_ordered (hm : 1 ≤ max) (hr : Reachable max njobs ordered s) (ht : terminated s = true)
    (ho : s.ordered = true) : s.delivered = (List.range s.njobs).map some := by
  have := C13_order hm hr ho
  rwa [C13_complete hm hr ht] at this

end Tp


/-! ## Part 8: C13 deadlock freedom -/

namespace Tp

variable {max njobs : Nat} {ordered : Bool} {s : St}

theorem worker_enabled {t : Nat} (ht : t < s.thr.size)
    (hp : s.thr[t]!.pc = .top false ∨ s.thr[t]!.pc = .gotJob ∨ s.thr[t]!.pc = .selfEnq ∨ s.thr[t]!.pc = .doneOrd) :
    (step s (.run (.worker t))).isSome = true := by
  simp only [step, stepWorker, ht, ↓reduceIte]
  rcases hp with hp | hp | hp | hp <;> rw [hp] <;> simp only
  · split <;> rfl
  · split
    · rfl
    · split <;> rfl
  · rfl
  · rfl

theorem Inv.work_enabled (h : Inv s) (hw : 0 < nWork s.thr) : ∃ w, (step s (.run w)).isSome = true := by
  obtain ⟨t, ht, hw⟩ := nWork_pos _ hw
  refine ⟨.worker t, worker_enabled ht ?_⟩
  have hs := h.shape ht
  simp only [isW, Bool.or_eq_true, beq_iff_eq] at hw
  rcases hw with hw | hw
  · rcases hs with q | q | q | q | q
    · simp [q.2.2.2.2] at hw
    · simp [q.1] at hw
    · simp [q.2.2.2.2] at hw
    · rcases q with q | q
      · rcases q.1 with p | p
        · exact .inl p
        · exact .inr (.inl p)
      · simp [q.2.2.2.2] at hw
    · simp [q.2.2.2.2] at hw
  · exact .inr (.inr (.inl hw))

/-- unless it has exited, the handler's side can move: the handler, the thread it waits for, or (`hw`: asleep on the
    queue) a thread that is still working -/
theorem Inv.handler_side (h : Inv s) (hne : s.hpc ≠ .exited) (hw : s.hpc = .deq true → 0 < nWork s.thr) :
    ∃ w, (step s (.run w)).isSome = true := by
  rcases hh : s.hpc with (_|_)|⟨t, (_|_)⟩|⟨t, r⟩|r|_
  · refine ⟨.handler, ?_⟩
    simp only [step, stepHandler, hh]
    split
    · rfl
    · split <;> rfl
  · exact h.work_enabled (hw hh)
  · refine ⟨.handler, ?_⟩
    simp only [step, stepHandler, hh]
    split <;> rfl
  · -- asleep waiting for thread `t`: it is still running, hence its worker is not asleep
    have hr := (h.tWait t true hh).2 rfl
    have ht := h.hHandLt t (by simp [hh, hHand])
    refine ⟨.worker t, worker_enabled ht ?_⟩
    rcases h.shapeH (t := t) (by simp [hh, hHand]) with q | q
    · rcases q.cases with q | q
      · rcases q.2 with q | q | q
        · rcases q.1 with p | p
          · exact .inl p
          · exact .inr (.inl p)
        · exact .inr (.inr (.inr q.1))
        · exact absurd (hr.symm.trans q.2.1) (by decide)
      · exact absurd (hr.symm.trans q.running) (by decide)
    · exact absurd (hr.symm.trans q.running) (by decide)
  · exact ⟨.handler, by simp [step, stepHandler, hh]⟩
  · exact ⟨.handler, by simp [step, stepHandler, hh]⟩
  · exact absurd hh hne

theorem deadlock_free_of_inv (h : Inv s) (ht : terminated s = false) : ∃ w, (step s (.run w)).isSome = true := by
  rcases hc : s.cpc with (_|_)|_|t|t|_|_|(_|_)|t|t|_
  · refine ⟨.caller, ?_⟩
    simp only [step, stepCaller, hc]
    split
    · rfl
    · split
      · rfl
      · split <;> rfl
  · -- next true: asleep in threadpool_next; all threads are out
    have hs := h.nextSleep hc
    have hsz := h.sizeMain (by simp [hc, inDestroy])
    have hcnt := h.cnt (by simp [hc, inDestroy])
    have hmax := h.maxPos
    simp only [hc, reduceCtorEq, ↓reduceIte, Nat.add_zero, cHand, o2n] at hsz hcnt
    apply h.handler_side
    · intro he; have := (h.hExit he).1; simp [hc, afterFinish] at this
    · intro hd
      have := (h.deqSleep hd).1
      simp [hs.1, this, hd, hHand] at hcnt
      omega
  · exact ⟨.caller, by simp [step, stepCaller, hc]⟩
  · exact ⟨.caller, by simp [step, stepCaller, hc]⟩
  · exact ⟨.caller, by simp [step, stepCaller, hc]⟩
  · exact ⟨.caller, by simp [step, stepCaller, hc]⟩
  · -- joinH
    by_cases he : s.hpc = .exited
    · exact ⟨.caller, by simp [step, stepCaller, hc, he]⟩
    · apply h.handler_side he
      intro hd
      have := h.deqSleep hd
      have hf := h.finIff
      have hn := h.nthr
      simp only [hc, afterFinish, pendU] at hf hn
      simp [this.1, hf] at this hn
      omega
  · -- destroy false
    refine ⟨.caller, ?_⟩
    simp only [step, stepCaller, hc]
    split
    · rfl
    · split <;> rfl
  · -- destroy true: impossible
    have hs := h.destroySleep hc
    have := (h.sizeDestroy (by simp [hc, inDestroy])).1
    simp [hc, cHand, o2n, hs.1] at this
    exact absurd this hs.2
  · exact ⟨.caller, by simp [step, stepCaller, hc]⟩
  · -- joinW t
    by_cases he : s.thr[t]!.pc = .exited
    · exact ⟨.caller, by simp [step, stepCaller, hc, he]⟩
    · have hk := h.tJoinW t hc
      have hlt := h.cHandLt t (by simp [hc, cHand])
      refine ⟨.worker t, worker_enabled hlt ?_⟩
      rcases hk.1 with p | p | p
      · exact .inl p
      · exact .inr (.inl p)
      · exact absurd p he
  · simp [terminated, hc] at ht

/-- in every reachable non-final state some thread can take a real (non-spurious) step -/
theorem C13_deadlock_free (hm : 1 ≤ max) (hr : Reachable max njobs ordered s) (ht : terminated s = false) :
    ∃ w, (step s (.run w)).isSome = true :=
  deadlock_free_of_inv (inv_reachable hm hr) ht

/-- why each sleeper sleeps (its wait predicate is false), hence who will wake it:
    a worker asleep at the loop head has `running = false`; the handler asleep on thread `t`'s condition variable has
    `thr[t].running = true` — so worker `t` and the handler are never both asleep on `thr[t].c`; the handler asleep on
    the queue sees it empty and not (finished ∧ nthreads = 0); the caller asleep in `threadpool_next` has no idle
    thread and `count = max`; the caller is never asleep in `threadpool_destroy` with an idle thread available. -/
theorem C13_sleepers (hm : 1 ≤ max) (hr : Reachable max njobs ordered s) :
    (∀ t, t < s.thr.size → s.thr[t]!.pc = .top true → s.thr[t]!.running = false) ∧
    (∀ t, s.hpc = .waitRes t true → t < s.thr.size ∧ s.thr[t]!.running = true ∧ s.thr[t]!.pc ≠ .top true) ∧
    (s.hpc = .deq true → s.queue = [] ∧ ¬ (s.finished = true ∧ s.nthreads = 0)) ∧
    (s.cpc = .next true → s.idle = [] ∧ s.count = s.max) ∧
    (s.cpc = .destroy true → s.idle = [] ∧ s.count ≠ 0) := by
  have h := inv_reachable hm hr
  have key : ∀ t, t < s.thr.size → s.thr[t]!.pc = .top true → s.thr[t]!.running = false := by
    intro t ht hp
    rcases h.shape ht with q | q | q | q | q
    · exact q.2.1
    · rcases q.2 with q | q | q
      · rcases q.1 with p | p <;> simp [hp] at p
      · have := q.1; simp [hp] at this
      · exact q.2.1
    · exact q.2.1
    · rcases q with q | q
      · rcases q.1 with p | p <;> simp [hp] at p
      · have := q.1; simp [hp] at this
    · rcases q.1 with p | p | p <;> simp [hp] at p
  refine ⟨key, fun t hh => ?_, h.deqSleep, h.nextSleep, h.destroySleep⟩
  have ht := h.hHandLt t (by simp [hh, hHand])
  have hrun := (h.tWait t true hh).2 rfl
  refine ⟨ht, hrun, fun hp => ?_⟩
  have := key t ht hp
  rw [hrun] at this; cases this

end Tp


/-! ## Part 9: C14 race freedom -/

namespace Tp

variable {max njobs : Nat} {ordered : Bool} {s : St}

def racy (l1 l2 : List Access) : Bool := l1.any fun a => l2.any fun b => conflict a b

theorem conflict_symm (a b : Access) : conflict a b = conflict b a := by
  unfold conflict
  have h1 : (a.loc == b.loc) = (b.loc == a.loc) := by
    rw [Bool.eq_iff_iff]; simp only [beq_iff_eq]; exact eq_comm
  have h2 : (a.locks.any fun l => b.locks.contains l) = (b.locks.any fun l => a.locks.contains l) := by
    rw [Bool.eq_iff_iff]
    simp only [List.any_eq_true, List.contains_iff_mem]
    constructor <;> rintro ⟨l, h1, h2⟩ <;> exact ⟨l, h2, h1⟩
  rw [h1, h2, Bool.or_comm]

theorem racy_symm (l1 l2 : List Access) : racy l1 l2 = racy l2 l1 := by
  unfold racy
  rw [Bool.eq_iff_iff]
  simp only [List.any_eq_true]
  constructor <;> rintro ⟨a, ha, b, hb, hc⟩ <;> exact ⟨b, hb, a, ha, by rwa [conflict_symm]⟩

theorem racy_nil_right (l : List Access) : racy l [] = false := by simp [racy]

theorem getElem?_thr (s : St) {t : Nat} (ht : t < s.thr.size) : s.thr[t]? = some s.thr[t]! := by
  rw [Array.getElem?_eq_getElem ht, getElem!_pos s.thr t ht]

theorem accesses_worker_oob (s : St) {t : Nat} (ht : ¬ t < s.thr.size) : accesses s (.worker t) = [] := by
  simp [accesses, Array.getElem?_eq_none (Nat.le_of_not_lt ht)]

/-! `racy_ch_of`, `racy_cw_of`, `racy_hw_of` below are stated over the facts they use, not over `Inv`:
    MtblProofs/TpKNoRace.lean replays them on a client's view of the k-client machine.  Pool and queue locations are guarded by their mutex in every access; a location in a thread
    record is touched only by a thread that owns the record. -/

def Loc.lock : Loc → Option Lock
  | .poolHead | .poolCount => some .pool
  | .rqHead | .rqNthreads | .rqFinished => some .rq
  | _ => none

def Loc.owner : Loc → Option Nat
  | .thrRunning t | .thrCb t | .thrRes t | .thrRq t | .thrNext t => some t
  | _ => none

theorem racy_eq_false {l1 l2 : List Access} : racy l1 l2 = false ↔
    ∀ a ∈ l1, ∀ b ∈ l2, a.loc = b.loc → (a.write = true ∨ b.write = true) → ∃ l ∈ a.locks, l ∈ b.locks := by
  rw [← Bool.not_eq_true]
  simp only [racy, List.any_eq_true, conflict, Bool.and_eq_true, beq_iff_eq, Bool.or_eq_true, Bool.not_eq_true',
    List.any_eq_false, List.contains_iff_mem]
  constructor
  · intro h a ha b hb e w
    refine Classical.byContradiction fun hn => h ⟨a, ha, b, hb, ⟨e, w⟩, fun l h1 h2 => hn ⟨l, h1, h2⟩⟩
  · rintro h ⟨a, ha, b, hb, ⟨e, w⟩, hl⟩
    obtain ⟨l, h1, h2⟩ := h a ha b hb e w
    exact hl l h1 h2

theorem Loc.lock_or_owner (x : Loc) : (∃ l, x.lock = some l) ∨ ∃ u, x.owner = some u := by
  cases x <;> simp [Loc.lock, Loc.owner]

theorem forall_mem_acc {L : List Lock} {R W : List Loc} {P : Access → Prop} :
    (∀ a ∈ acc L R W, P a) ↔ (∀ x ∈ R, P ⟨x, false, L⟩) ∧ ∀ x ∈ W, P ⟨x, true, L⟩ := by
  simp only [acc, List.mem_append, List.mem_map]
  constructor
  · exact fun h => ⟨fun x hx => h _ (.inl ⟨x, hx, rfl⟩), fun x hx => h _ (.inr ⟨x, hx, rfl⟩)⟩
  · rintro ⟨h1, h2⟩ a (⟨x, hx, rfl⟩ | ⟨x, hx, rfl⟩)
    · exact h1 x hx
    · exact h2 x hx

def Access.guarded (a : Access) : Bool := match a.loc.lock with | some k => a.locks.contains k | none => true

theorem accesses_guarded (s : St) (w : Who) : (accesses s w).all Access.guarded = true := by
  rcases w with _ | _ | t
  · st_cases s
    rcases cpc with (_|_)|_|_|_|_|_|(_|_)|_|_|_ <;> cases idle <;> cases ordered <;> rfl
  · st_cases s
    rcases hpc with (_|_)|⟨_, (_|_)⟩|_|_|_ <;> cases queue <;> simp only [accesses] <;> (try split) <;> rfl
  · simp only [accesses]
    generalize (s.thr[t]?).map (·.pc) = p
    generalize ((s.thr[t]?).map (·.rq)).getD false = r
    rcases p with _ | (_|_) | _ | _ | _ | _ <;> cases r <;> rfl

theorem Access.mem_of_guarded {a : Access} (h : a.guarded = true) {l : Lock} (hl : a.loc.lock = some l) : l ∈ a.locks := by
  simpa [Access.guarded, hl] using h

def ownC (s : St) (u : Nat) : Prop := (∃ rest, s.idle = u :: rest) ∨ cHand s.cpc s.ordered = some u

def CFoot (s : St) (a : Access) : Prop := ∀ u, a.loc.owner = some u →
  ownC s u ∧ (a.loc = .thrRunning u → a.write = true → .thr u ∈ a.locks) ∧
    (s.cpc = .enqueue u → a.loc = .thrNext u ∧ .rq ∈ a.locks) ∧ s.cpc ≠ .joinW u

theorem caller_foot (s : St) : ∀ a ∈ accesses s .caller, CFoot s a := by
  rcases hc : s.cpc with (_|_)|_|t|t|_|_|(_|_)|t|t|_ <;> simp only [accesses, hc, List.not_mem_nil, false_imp_iff, implies_true]
  all_goals (try split)
  all_goals simp only [List.forall_mem_append, forall_mem_acc, List.forall_mem_cons]
  all_goals simp [CFoot, ownC, Loc.owner, cHand, *]

def ownH (s : St) (u : Nat) : Prop := (∃ rest, s.queue = u :: rest) ∨ hHand s.hpc = some u

/-- outside `waitRes` the handler touches only its thread's queue link -/
def HFoot (s : St) (a : Access) : Prop := ∀ u, a.loc.owner = some u →
  ownH s u ∧ (a.loc = .thrNext u ∨ ∃ x, s.hpc = .waitRes u x) ∧
    (a.loc = .thrNext u → .rq ∈ a.locks ∨ ∃ r, s.hpc = .giveBack u r)

theorem handler_foot (s : St) : ∀ a ∈ accesses s .handler, HFoot s a := by
  rcases hh : s.hpc with (_|_)|⟨t', (_|_)⟩|⟨t', r⟩|r|_ <;> simp only [accesses, hh, List.not_mem_nil, false_imp_iff, implies_true]
  all_goals (try split)
  all_goals simp only [forall_mem_acc, List.forall_mem_cons]
  all_goals simp [HFoot, ownH, Loc.owner, hHand, *]

/-- a worker touches only its own record; at its loop head only `running` -/
def WFoot (s : St) (t : Nat) (a : Access) : Prop := ∀ u, a.loc.owner = some u →
  u = t ∧ (a.loc = .thrNext t → .rq ∈ a.locks) ∧ (isTop (s.thr[t]!).pc = true → a = ⟨.thrRunning t, false, [.thr t]⟩)

theorem worker_foot (s : St) (t : Nat) : ∀ a ∈ accesses s (.worker t), WFoot s t a := by
  by_cases ht : t < s.thr.size
  case neg => simp [accesses_worker_oob s ht]
  rcases hp : s.thr[t]!.pc with (_|_)|_|_|_|_ <;> simp only [accesses, getElem?_thr s ht, Option.map_some, hp, List.not_mem_nil, false_imp_iff, implies_true]
  all_goals (try split)
  all_goals simp only [List.forall_mem_append, forall_mem_acc, List.forall_mem_cons]
  all_goals simp [WFoot, Loc.owner, isTop, hp]

theorem common_lock_of_guarded {s : St} {w1 w2 : Who} {a b : Access} (ha : a ∈ accesses s w1) (hb : b ∈ accesses s w2)
    (e : a.loc = b.loc) : (∃ l ∈ a.locks, l ∈ b.locks) ∨ ∃ u, a.loc.owner = some u := by
  rcases a.loc.lock_or_owner with ⟨l, hl⟩ | hu
  · exact .inl ⟨l, Access.mem_of_guarded (List.all_eq_true.mp (accesses_guarded s w1) a ha) hl,
      Access.mem_of_guarded (List.all_eq_true.mp (accesses_guarded s w2) b hb) (e ▸ hl)⟩
  · exact .inr hu

theorem racy_ch_of (s : St)
    (d1 : ∀ t rest t' rest', s.idle = t :: rest → s.queue = t' :: rest' → t ≠ t')
    (d2 : ∀ t rest, s.queue = t :: rest → cHand s.cpc s.ordered ≠ some t)
    (d3 : ∀ t rest, s.idle = t :: rest → hHand s.hpc ≠ some t)
    (d4 : ∀ t, cHand s.cpc s.ordered = some t → hHand s.hpc ≠ some t)
    (d5 : inDestroy s.cpc = true → s.hpc = .exited) :
    racy (accesses s .caller) (accesses s .handler) = false := by
  by_cases hd : inDestroy s.cpc = true
  · rw [show accesses s .handler = [] by simp [accesses, d5 hd], racy_nil_right]
  rw [racy_eq_false]
  intro a ha b hb e _
  rcases common_lock_of_guarded ha hb e with h | ⟨u, hu⟩
  · exact h
  · -- the caller and the handler never own the same thread
    rcases (caller_foot s a ha u hu).1 with ⟨r1, h1⟩ | h1 <;> rcases (handler_foot s b hb u (e ▸ hu)).1 with ⟨r2, h2⟩ | h2
    · exact absurd rfl (d1 u r1 u r2 h1 h2)
    · exact absurd h2 (d3 u r1 h1)
    · exact absurd h1 (d2 u r2 h2)
    · exact absurd h2 (d4 u h1)

theorem norace_ch (h : Inv s) : racy (accesses s .caller) (accesses s .handler) = false :=
  racy_ch_of s (fun t _ t' _ h1 h2 e => h.idle_queue (t := t) (by simp [h1]) (by simp [h2, e]))
    (fun t _ h1 h2 => h.cNotQueue t h2 (by simp [h1])) (fun t _ h1 h2 => h.hNotIdle t h2 (by simp [h1])) h.chDisj h.destroyH

theorem racy_cw_of (s : St) (t : Nat)
    (e1 : ∀ t' rest, s.idle = t' :: rest → SIdle s.thr[t']!)
    (e2 : ∀ t, s.cpc = .assign t → SIdle s.thr[t]!) (e3 : ∀ t, s.cpc = .kill t → SIdle s.thr[t]!) :
    racy (accesses s .caller) (accesses s (.worker t)) = false := by
  rw [racy_eq_false]
  intro a ha b hb e w
  rcases common_lock_of_guarded ha hb e with h | ⟨u, hu⟩
  · exact h
  obtain ⟨rfl, hn, htop⟩ := worker_foot s t b hb u (e ▸ hu)
  obtain ⟨ho, hr, hq, hj⟩ := caller_foot s a ha u hu
  -- the caller owns `u`: it is idle at its loop head, or is being linked into the queue
  have idle_case : SIdle s.thr[u]! → ∃ l ∈ a.locks, l ∈ b.locks := fun hi => by
    have hb' := htop hi.1
    subst hb'
    have hw : a.write = true := by simpa using w
    exact ⟨.thr u, hr e hw, by simp⟩
  rcases ho with ⟨r, h1⟩ | h1
  · exact idle_case (e1 u r h1)
  · rcases cHand_eq_some.mp h1 with h1 | ⟨h1, _⟩ | h1 | h1
    · exact idle_case (e2 u h1)
    · exact ⟨.rq, (hq h1).2, hn (e ▸ (hq h1).1)⟩
    · exact idle_case (e3 u h1)
    · exact absurd h1 hj

theorem norace_cw (h : Inv s) (t : Nat) : racy (accesses s .caller) (accesses s (.worker t)) = false :=
  racy_cw_of s t (fun t' _ h1 => h.tIdle t' (by simp [h1])) h.tAssign h.tKill

/-- the shapes with the loop-head sleep flag abstracted (the k-client invariant does not track it) -/
def SOrd' (th : Thr) : Prop :=
  th.rq = false ∧
  (((isTop th.pc = true ∨ th.pc = .gotJob) ∧ th.running = true ∧ th.cb ≠ none ∧ th.res = none) ∨
   (th.pc = .doneOrd ∧ th.running = true ∧ th.cb = none ∧ th.res ≠ none) ∨
   (isTop th.pc = true ∧ th.running = false ∧ th.cb = none ∧ th.res ≠ none))
def SQ' (ordered : Bool) (th : Thr) : Prop := if ordered then SOrd' th else SFin th

theorem SQ.toSQ' {o : Bool} {th : Thr} (h : SQ o th) : SQ' o th := by
  unfold SQ at h; unfold SQ'
  split
  · rename_i ho; rw [if_pos ho] at h
    exact ⟨h.1, h.2.imp (And.imp_left (Or.imp_left fun e => by rw [e]; rfl)) id⟩
  · rename_i ho; rwa [if_neg ho] at h

theorem racy_hw_of (s : St) (t : Nat)
    (e1 : ∀ t a, s.hpc = .waitRes t a → SQ' s.ordered s.thr[t]! ∧ (a = true → s.thr[t]!.running = true))
    (e2 : ∀ t r, s.hpc = .giveBack t r → SIdle s.thr[t]!) :
    racy (accesses s .handler) (accesses s (.worker t)) = false := by
  by_cases hw : ∃ x, s.hpc = .waitRes t x
  · -- the handler waits for this very thread: by the worker's pc and the record's shape
    obtain ⟨x, hh⟩ := hw
    by_cases ht : t < s.thr.size
    case neg => rw [accesses_worker_oob s ht, racy_nil_right]
    have e1 := e1 t x hh
    rcases x with _ | _ <;> rcases hp : s.thr[t]!.pc with (_|_)|_|_|_|_ <;>
    simp only [accesses, hh, getElem?_thr s ht, Option.map_some, hp, racy, List.any_nil] <;>
    first | rfl | skip
    all_goals (repeat' split)
    all_goals simp [acc, conflict]
    all_goals grind [SQ', SOrd', SFin, isTop_iff, getElem?_thr]
  · rw [racy_eq_false]
    intro a ha b hb e _
    rcases common_lock_of_guarded ha hb e with h | ⟨u, hu⟩
    · exact h
    obtain ⟨rfl, hn, htop⟩ := worker_foot s t b hb u (e ▸ hu)
    obtain ⟨_, hl, hq⟩ := handler_foot s a ha u hu
    have hl := hl.resolve_right hw
    rcases hq hl with h | ⟨r, hr⟩
    · exact ⟨.rq, h, hn (e ▸ hl)⟩
    · -- given back: the thread is idle at its loop head and does not touch its queue link
      have := htop (e2 u r hr).1
      rw [this] at e
      simp [hl] at e

theorem norace_hw (h : Inv s) (t : Nat) : racy (accesses s .handler) (accesses s (.worker t)) = false :=
  racy_hw_of s t (fun t a e => ⟨(h.tWait t a e).1.toSQ', (h.tWait t a e).2⟩) h.tGive

theorem norace_ww (t1 t2 : Nat) (hne : t1 ≠ t2) :
    racy (accesses s (.worker t1)) (accesses s (.worker t2)) = false := by
  rw [racy_eq_false]
  intro a ha b hb e _
  rcases common_lock_of_guarded ha hb e with h | ⟨u, hu⟩
  · exact h
  · exact absurd ((worker_foot s t1 a ha u hu).1.symm.trans (worker_foot s t2 b hb u (e ▸ hu)).1) hne

/-- no reachable state has two enabled conflicting accesses with disjoint locksets -/
theorem norace_of_inv (h : Inv s) (w1 w2 : Who) : raceBetween s w1 w2 = false := by
  have key : w1 ≠ w2 → racy (accesses s w1) (accesses s w2) = false := by
    intro hne
    rcases w1 with _ | _ | t1 <;> rcases w2 with _ | _ | t2
    · exact absurd rfl hne
    · exact norace_ch h
    · exact norace_cw h t2
    · rw [racy_symm]; exact norace_ch h
    · exact absurd rfl hne
    · exact norace_hw h t2
    · rw [racy_symm]; exact norace_cw h t1
    · rw [racy_symm]; exact norace_hw h t1
    · exact norace_ww t1 t2 (fun e => hne (by rw [e]))
  unfold raceBetween
  by_cases hne : w1 = w2
  · simp [hne]
  · have := key hne
    unfold racy at this
    rw [this]; simp

theorem C14_norace (hm : 1 ≤ max) (hr : Reachable max njobs ordered s) :
    ∀ w1 w2, raceBetween s w1 w2 = false :=
  norace_of_inv (inv_reachable hm hr)

end Tp


/-! ## Part 10: non-vacuity -/

namespace Tp

theorem reachable_runSched {max njobs : Nat} {ordered : Bool} {s : St} (h : Reachable max njobs ordered s)
    (l : List Lbl) : Reachable max njobs ordered (runSched s l) := by
  induction l generalizing s with
  | nil => exact h
  | cons a l ih =>
    unfold runSched
    split
    · rename_i s' hs; exact ih (.step h hs)
    · exact ih h

namespace Ex
def c : Lbl := .run .caller
def h : Lbl := .run .handler
def w (t : Nat) : Lbl := .run (.worker t)
def sc : Lbl := .spurious .caller
def sh : Lbl := .spurious .handler
def sw (t : Nat) : Lbl := .spurious (.worker t)

/-- ordered, max = 2, njobs = 3; every label in the list is enabled when it is its turn (9 of them spurious
    wake-ups) -/
def schedOrd : List Lbl :=
  [c, c, h, w 0, sh, h, sw 0, c, sh, c, h, c, c, c, w 0, w 1, w 0, c, w 1, w 0, w 0, sw 0, w 1, c, h, h, h, c, w 1, c,
   h, h, h, h, h, sw 1, w 0, w 0, w 0, sh, w 1, c, c, w 0, h, c, sw 0, w 0, sw 1, w 1, h, sw 0, h, sw 1, w 0, w 1, h,
   h, c, c, c, w 0, w 0, c, c, c, w 1, w 1, c, c]

/-- unordered, max = 2, njobs = 3: job 2 overtakes job 1 -/
def schedUnord : List Lbl :=
  [c, c, c, h, sh, w 0, c, w 0, c, w 0, c, w 1, sw 1, h, c, w 1, w 0, c, c, h, h, h, c, c, h, w 0, w 0, c, w 0, w 0, h,
   w 1, c, w 1, c, h, h, w 1, sw 0, h, w 0, h, h, h, sw 0, h, w 0, sw 0, h, c, w 0, sw 0, c, c, w 0, w 1, w 1, c, c, c,
   w 0, w 0, c, c]
end Ex

example : let s := runSched (init 2 3 true) Ex.schedOrd
    terminated s = true ∧ s.delivered = [some 0, some 1, some 2] ∧ s.count = 0 ∧ s.thr.size = 2 := by
  decide +kernel

example : let s := runSched (init 2 3 false) Ex.schedUnord
    terminated s = true ∧ s.delivered = [some 0, some 2, some 1] ∧ s.count = 0 ∧ s.thr.size = 2 := by
  decide +kernel

example : Reachable 2 3 true (runSched (init 2 3 true) Ex.schedOrd) := reachable_runSched .init _
example : Reachable 2 3 false (runSched (init 2 3 false) Ex.schedUnord) := reachable_runSched .init _

/-- an (unreachable) state in which the dispatcher writes the record of a thread that is still in its callback -/
def Ex.racyState : St :=
  { init 1 1 true with thr := #[{ pc := .gotJob, running := true, cb := some 0 }], count := 1, cpc := .assign 0 }

/-- the race detector is not vacuous -/
example : raceBetween Ex.racyState .caller (.worker 0) = true := by decide

/-- an (unreachable) lost-wake-up state: caller, handler and worker all asleep -/
def Ex.stuckState : St :=
  { init 1 1 true with thr := #[{ pc := .top true, running := true, cb := some 0 }], count := 1, cpc := .next true,
                       hpc := .deq true }

/-- the deadlock statement is not vacuous -/
example : terminated Ex.stuckState = false ∧
    ∀ w ∈ [Who.caller, Who.handler, Who.worker 0], (step Ex.stuckState (.run w)).isSome = false := by
  decide

end Tp
