import MtblModel.Varint
/-
  Proofs about the model of mtbl/varint.c and mtbl/fixed.c (MtblModel/Varint.lean).
-/
namespace Mtbl

namespace VarintAux

/-- core's `UInt8.toNat_ofNat_of_lt'` with the bound written `256`, so that `omega` can discharge it -/
theorem toUInt8_toNat_of_lt {n : Nat} (h : n < 256) : n.toUInt8.toNat = n :=
  UInt8.toNat_ofNat_of_lt' h

theorem venc_lt {v : Nat} (h : v < 128) : venc v = [v.toUInt8] := by
  rw [venc]; simp [h]

theorem venc_ge {v : Nat} (h : 128 ≤ v) :
    venc v = (v % 128 + 128).toUInt8 :: venc (v / 128) := by
  rw [venc]; simp [Nat.not_lt.mpr h]

theorem vlen_lt {v : Nat} (h : v < 128) : vlen v = 1 := by
  rw [vlen]; simp [h]

theorem vlen_ge {v : Nat} (h : 128 ≤ v) : vlen v = 1 + vlen (v / 128) := by
  rw [vlen]; simp [Nat.not_lt.mpr h]

theorem venc_ne_nil (v : Nat) : venc v ≠ [] := by
  by_cases h : v < 128
  · rw [venc_lt h]; simp
  · rw [venc_ge (by omega)]; simp

end VarintAux

open VarintAux

theorem venc_length (v : Nat) : (venc v).length = vlen v := by
  induction v using Nat.strongRecOn with
  | _ v ih =>
    by_cases h : v < 128
    · rw [venc_lt h, vlen_lt h]; rfl
    · rw [venc_ge (by omega), vlen_ge (by omega), List.length_cons, ih (v / 128) (by omega)]
      omega

theorem vlen_pos (v : Nat) : 0 < vlen v := by
  by_cases h : v < 128
  · rw [vlen_lt h]; omega
  · rw [vlen_ge (by omega)]; omega

namespace VarintAux

theorem vlen_le_of_lt_pow : ∀ (k : Nat) (v : Nat), v < 128 ^ (k + 1) → vlen v ≤ k + 1 := by
  intro k
  induction k with
  | zero => intro v h; rw [vlen_lt (by simpa using h)]; omega
  | succ k ih =>
    intro v h
    by_cases h1 : v < 128
    · rw [vlen_lt h1]; omega
    · rw [vlen_ge (by omega)]
      have : v / 128 < 128 ^ (k + 1) := by
        rw [Nat.div_lt_iff_lt_mul (by omega)]
        rw [Nat.pow_succ] at h; exact h
      have := ih (v / 128) this
      omega

end VarintAux

theorem vlen_le5 {v : Nat} (h : v < 2^32) : vlen v ≤ 5 :=
  vlen_le_of_lt_pow 4 v (by have : (2:Nat)^32 ≤ 128^(4+1) := by decide
                            omega)

theorem vlen_le10 {v : Nat} (h : v < 2^64) : vlen v ≤ 10 :=
  vlen_le_of_lt_pow 9 v (by have : (2:Nat)^64 ≤ 128^(9+1) := by decide
                            omega)

theorem vdec_venc (v : Nat) : ∀ (shift fuel : Nat) (rest : Bytes), vlen v ≤ fuel →
    vdec fuel shift (venc v ++ rest) = some (v * 2^shift, vlen v) := by
  induction v using Nat.strongRecOn with
  | _ v ih =>
    intro shift fuel rest hf
    by_cases h : v < 128
    · rw [venc_lt h, vlen_lt h] at *
      cases fuel with
      | zero => omega
      | succ f =>
        simp [vdec, toUInt8_toNat_of_lt (show v < 256 by omega), h, Nat.mod_eq_of_lt h]
    · rw [venc_ge (by omega), vlen_ge (by omega)] at *
      cases fuel with
      | zero => omega
      | succ f =>
        have hb : ((v % 128 + 128).toUInt8).toNat = v % 128 + 128 :=
          toUInt8_toNat_of_lt (by omega)
        have hrec := ih (v/128) (by omega) (shift+7) f rest (by omega)
        simp only [List.cons_append, vdec, hb]
        rw [if_neg (by omega), hrec]
        simp only [Option.some.injEq, Prod.mk.injEq]
        refine ⟨?_, by omega⟩
        have h1 : (v % 128 + 128) % 128 = v % 128 := by omega
        rw [h1, Nat.pow_add]
        have hv : v = 128 * (v/128) + v % 128 := (Nat.div_add_mod v 128).symm
        generalize v / 128 = q at *
        generalize v % 128 = r at *
        subst hv
        have : (2:Nat)^7 = 128 := by decide
        rw [this, Nat.add_mul, Nat.mul_comm 128 q, Nat.mul_assoc, Nat.mul_comm (2^shift) 128,
          Nat.add_comm]

/-! ### the unrolled 32-bit encoder equals the loop -/

namespace VarintAux

theorem or128_small : ∀ r : Fin 256, (r.val ||| 128) = r.val % 128 + 128 := by decide +kernel

theorem or128 (x : Nat) : (x ||| 128) % 256 = x % 128 + 128 := by
  have h := Nat.or_mod_two_pow (a := x) (b := 128) (n := 8)
  have e : (2:Nat)^8 = 256 := by decide
  rw [e] at h
  rw [h, show (128 % 256 : Nat) = 128 from rfl]
  have := or128_small ⟨x % 256, by omega⟩
  simp only at this
  rw [this]; omega

theorem u8_or128 (x : Nat) : u8 (x ||| 128) = (x % 128 + 128).toUInt8 := by
  rw [u8, or128]

theorem u8_of_lt {x : Nat} (h : x < 256) : u8 x = x.toUInt8 := by
  rw [u8, Nat.mod_eq_of_lt h]

end VarintAux

theorem venc32_eq_venc {v : Nat} (h : v < 2^32) : venc32 v = venc v := by
  have e7 : v >>> 7 = v / 128 := by rw [Nat.shiftRight_eq_div_pow]
  have e14 : v >>> 14 = v / 128 / 128 := by
    rw [Nat.shiftRight_eq_div_pow, Nat.div_div_eq_div_mul]
  have e21 : v >>> 21 = v / 128 / 128 / 128 := by
    rw [Nat.shiftRight_eq_div_pow, Nat.div_div_eq_div_mul, Nat.div_div_eq_div_mul]
  have e28 : v >>> 28 = v / 128 / 128 / 128 / 128 := by
    rw [Nat.shiftRight_eq_div_pow, Nat.div_div_eq_div_mul, Nat.div_div_eq_div_mul,
      Nat.div_div_eq_div_mul]
  have p7 : (2:Nat)^7 = 128 := by decide
  have p14 : (2:Nat)^14 = 128*128 := by decide
  have p21 : (2:Nat)^21 = 128*128*128 := by decide
  have p28 : (2:Nat)^28 = 128*128*128*128 := by decide
  have p32 : (2:Nat)^32 = 128*128*128*128*16 := by decide
  rw [p32] at h
  unfold venc32
  rw [e7, e14, e21, e28, p7, p14, p21, p28]
  simp only [u8_or128]
  by_cases h1 : v < 128
  · rw [if_pos h1, venc_lt h1, u8_of_lt (by omega)]
  · rw [if_neg h1, venc_ge (by omega)]
    by_cases h2 : v < 128*128
    · rw [if_pos h2, venc_lt (by omega), u8_of_lt (by omega)]
    · rw [if_neg h2, venc_ge (v := v/128) (by omega)]
      by_cases h3 : v < 128*128*128
      · rw [if_pos h3, venc_lt (by omega), u8_of_lt (by omega)]
      · rw [if_neg h3, venc_ge (v := v/128/128) (by omega)]
        by_cases h4 : v < 128*128*128*128
        · rw [if_pos h4, venc_lt (by omega), u8_of_lt (by omega)]
        · rw [if_neg h4, venc_ge (v := v/128/128/128) (by omega),
            venc_lt (by omega), u8_of_lt (by omega)]

theorem vdecode64_venc {v : Nat} (h : v < 2^64) (r : Bytes) :
    vdecode64 (venc v ++ r) = (v, vlen v) := by
  unfold vdecode64
  rw [vdec_venc v 0 10 r (vlen_le10 h)]
  simp only [Nat.pow_zero, Nat.mul_one, Nat.mod_eq_of_lt h]

theorem vdecode32_venc32 {v : Nat} (h : v < 2^32) (r : Bytes) :
    vdecode32 (venc32 v ++ r) = (v, vlen v) := by
  unfold vdecode32
  rw [venc32_eq_venc h, vdec_venc v 0 5 r (vlen_le5 h)]
  simp only [Nat.pow_zero, Nat.mul_one, Nat.mod_eq_of_lt h]

theorem vdecode64_venc32 {v : Nat} (h : v < 2^32) (r : Bytes) :
    vdecode64 (venc32 v ++ r) = (v, vlen v) := by
  rw [venc32_eq_venc h]
  exact vdecode64_venc (by have : (2:Nat)^32 ≤ 2^64 := by decide
                           omega) r

/-! ### `mtbl_varint_length_packed` -/

namespace VarintAux

theorem vlenPackedGo_venc (v : Nat) : ∀ (r : Bytes) (i : Nat),
    vlenPackedGo (venc v ++ r) i = i + vlen v := by
  induction v using Nat.strongRecOn with
  | _ v ih =>
    intro r i
    by_cases h : v < 128
    · rw [venc_lt h, vlen_lt h]
      simp [vlenPackedGo, toUInt8_toNat_of_lt (show v < 256 by omega), h]
    · rw [venc_ge (by omega), vlen_ge (by omega)]
      have hb : ((v % 128 + 128).toUInt8).toNat = v % 128 + 128 :=
        toUInt8_toNat_of_lt (by omega)
      simp only [List.cons_append, vlenPackedGo, hb]
      rw [if_neg (by omega), ih (v / 128) (by omega)]
      omega

theorem vlenPackedGo_truncated : ∀ (d : Bytes) (i : Nat), (∀ b ∈ d, 128 ≤ b.toNat) →
    vlenPackedGo d i = 0 := by
  intro d
  induction d with
  | nil => intro i _; rfl
  | cons b bs ih =>
    intro i h
    have hb := h b (by simp)
    simp only [vlenPackedGo]
    rw [if_neg (by omega)]
    exact ih (i + 1) (fun c hc => h c (by simp [hc]))

end VarintAux

theorem vlenPacked_venc (v : Nat) (r : Bytes) : vlenPacked (venc v ++ r) = vlen v := by
  unfold vlenPacked
  rw [vlenPackedGo_venc]; omega

theorem vlenPacked_truncated (d : Bytes) (h : ∀ b ∈ d, 128 ≤ b.toNat) : vlenPacked d = 0 :=
  vlenPackedGo_truncated d 0 h

namespace VarintAux

theorem vdec_none_of_cont : ∀ (fuel shift : Nat) (d : Bytes),
    (∀ b ∈ d.take fuel, 128 ≤ b.toNat) → vdec fuel shift d = none := by
  intro fuel
  induction fuel with
  | zero => intro shift d _; cases d <;> rfl
  | succ f ih =>
    intro shift d h
    cases d with
    | nil => rfl
    | cons b bs =>
      have hb := h b (by simp)
      simp only [vdec]
      rw [if_neg (by omega), ih (shift + 7) bs (fun c hc => h c (by simp [hc]))]

end VarintAux

set_option linter.unusedVariables false in
theorem vdecode32_overlong (d : Bytes) (h5 : 5 ≤ d.length)
    (h : ∀ b ∈ d.take 5, 128 ≤ b.toNat) : vdecode32 d = (0, 0) := by
  unfold vdecode32
  rw [vdec_none_of_cont 5 0 d h]

set_option linter.unusedVariables false in
theorem vdecode64_overlong (d : Bytes) (h10 : 10 ≤ d.length)
    (h : ∀ b ∈ d.take 10, 128 ≤ b.toNat) : vdecode64 d = (0, 0) := by
  unfold vdecode64
  rw [vdec_none_of_cont 10 0 d h]

/-! ### standard little-endian base-128 form -/

def leb128Val : Bytes → Nat
  | [] => 0
  | b :: bs => b.toNat % 128 + 128 * leb128Val bs

namespace VarintAux

theorem leb128Val_venc (v : Nat) : leb128Val (venc v) = v := by
  induction v using Nat.strongRecOn with
  | _ v ih =>
    by_cases h : v < 128
    · rw [venc_lt h]
      simp only [leb128Val, toUInt8_toNat_of_lt (show v < 256 by omega)]
      omega
    · rw [venc_ge (by omega)]
      simp only [leb128Val, toUInt8_toNat_of_lt (show v % 128 + 128 < 256 by omega)]
      rw [ih (v / 128) (by omega)]
      omega

theorem venc_dropLast_cont (v : Nat) : ∀ b ∈ (venc v).dropLast, 128 ≤ b.toNat := by
  induction v using Nat.strongRecOn with
  | _ v ih =>
    by_cases h : v < 128
    · rw [venc_lt h]; simp
    · rw [venc_ge (by omega)]
      obtain ⟨x, xs, hx⟩ := List.exists_cons_of_ne_nil (venc_ne_nil (v / 128))
      have ih' := ih (v / 128) (by omega)
      rw [hx] at ih' ⊢
      rw [List.dropLast_cons_cons]
      intro b hb
      rcases List.mem_cons.mp hb with hb | hb
      · rw [hb, toUInt8_toNat_of_lt (show v % 128 + 128 < 256 by omega)]; omega
      · exact ih' b hb

theorem venc_last (v : Nat) : ∀ b, (venc v).getLast? = some b →
    b.toNat < 128 ∧ (0 < v → b.toNat ≠ 0) := by
  induction v using Nat.strongRecOn with
  | _ v ih =>
    intro b hb
    by_cases h : v < 128
    · rw [venc_lt h] at hb
      simp only [List.getLast?_singleton, Option.some.injEq] at hb
      rw [← hb, toUInt8_toNat_of_lt (show v < 256 by omega)]
      omega
    · rw [venc_ge (by omega)] at hb
      obtain ⟨x, xs, hx⟩ := List.exists_cons_of_ne_nil (venc_ne_nil (v / 128))
      have ih' := ih (v / 128) (by omega) b
      rw [hx] at ih' hb
      rw [List.getLast?_cons_cons] at hb
      have := ih' hb
      refine ⟨this.1, fun _ => this.2 (by omega)⟩

end VarintAux

theorem venc_standard (v : Nat) :
    leb128Val (venc v) = v ∧ (∀ b ∈ (venc v).dropLast, 128 ≤ b.toNat) ∧
    (∀ b, (venc v).getLast? = some b → b.toNat < 128 ∧ (128 ≤ v → b.toNat ≠ 0)) := by
  refine ⟨leb128Val_venc v, venc_dropLast_cont v, ?_⟩
  intro b hb
  have := venc_last v b hb
  exact ⟨this.1, fun h => this.2 (by omega)⟩

/-! ### fixed width -/

theorem fixed32_length (v : Nat) : (fixed32 v).length = 4 := rfl

theorem fixed64_length (v : Nat) : (fixed64 v).length = 8 := rfl

theorem dec32_fixed32_mod (v : Nat) (r : Bytes) : dec32 (fixed32 v ++ r) = v % 2^32 := by
  simp only [fixed32, dec32, List.cons_append, List.nil_append]
  rw [toUInt8_toNat_of_lt (Nat.mod_lt _ (by omega)), toUInt8_toNat_of_lt (Nat.mod_lt _ (by omega)),
    toUInt8_toNat_of_lt (Nat.mod_lt _ (by omega)), toUInt8_toNat_of_lt (Nat.mod_lt _ (by omega))]
  omega

theorem dec32_fixed32 {v : Nat} (h : v < 2^32) (r : Bytes) : dec32 (fixed32 v ++ r) = v := by
  rw [dec32_fixed32_mod, Nat.mod_eq_of_lt h]

theorem dec32_fixed32' {v : Nat} (h : v < 2 ^ 32) : dec32 (fixed32 v) = v := by
  simpa using dec32_fixed32 h []

theorem dec64_fixed64_mod (v : Nat) (r : Bytes) : dec64 (fixed64 v ++ r) = v % 2^64 := by
  unfold dec64 fixed64
  rw [List.append_assoc, dec32_fixed32_mod, List.drop_left' (fixed32_length _), dec32_fixed32_mod]
  omega

theorem dec64_fixed64 {v : Nat} (h : v < 2^64) (r : Bytes) : dec64 (fixed64 v ++ r) = v := by
  rw [dec64_fixed64_mod, Nat.mod_eq_of_lt h]

namespace VarintAux

theorem toUInt8_of_mod_eq {n : Nat} {a : UInt8} (h : n % 256 = a.toNat) :
    (n % 256).toUInt8 = a := by
  rw [h]; exact UInt8.ofNat_toNat

end VarintAux

theorem fixed32_dec32 (a b c d : UInt8) (r : Bytes) :
    fixed32 (dec32 (a :: b :: c :: d :: r)) = [a, b, c, d] := by
  have ha := a.toNat_lt
  have hb := b.toNat_lt
  have hc := c.toNat_lt
  have hd := d.toNat_lt
  simp only [dec32, fixed32]
  rw [toUInt8_of_mod_eq (a := a) (by omega), toUInt8_of_mod_eq (a := b) (by omega),
    toUInt8_of_mod_eq (a := c) (by omega), toUInt8_of_mod_eq (a := d) (by omega)]

theorem dec32_append4 (field rest : Bytes) (hf : field.length = 4) : dec32 (field ++ rest) = dec32 field := by
  match field, hf with
  | [_, _, _, _], _ => rfl

theorem dec32_lt (d : Bytes) : dec32 d < 2^32 := by
  have p : (2:Nat)^32 = 4294967296 := by decide
  rw [p]
  unfold dec32
  split
  · next a b c e _ =>
    have ha := a.toNat_lt
    have hb := b.toNat_lt
    have hc := c.toNat_lt
    have he := e.toNat_lt
    omega
  · omega

theorem dec64_lt (d : Bytes) : dec64 d < 2^64 := by
  have p : (2:Nat)^64 = 4294967296 * 4294967296 := by decide
  have p32 : (2:Nat)^32 = 4294967296 := by decide
  have h1 := dec32_lt d
  have h2 := dec32_lt (d.drop 4)
  rw [p32] at h1 h2
  rw [p]
  unfold dec64
  omega

theorem fixed64_dec64 (a0 a1 a2 a3 a4 a5 a6 a7 : UInt8) (r : Bytes) :
    fixed64 (dec64 (a0 :: a1 :: a2 :: a3 :: a4 :: a5 :: a6 :: a7 :: r)) =
      [a0, a1, a2, a3, a4, a5, a6, a7] := by
  have p32 : (2:Nat)^32 = 4294967296 := by decide
  have h1 := dec32_lt (a0 :: a1 :: a2 :: a3 :: a4 :: a5 :: a6 :: a7 :: r)
  have h2 := dec32_lt (a4 :: a5 :: a6 :: a7 :: r)
  rw [p32] at h1 h2
  unfold dec64 fixed64
  simp only [List.drop_succ_cons, List.drop_zero]
  have e1 : (dec32 (a0 :: a1 :: a2 :: a3 :: a4 :: a5 :: a6 :: a7 :: r) +
      4294967296 * dec32 (a4 :: a5 :: a6 :: a7 :: r)) % 4294967296 =
      dec32 (a0 :: a1 :: a2 :: a3 :: a4 :: a5 :: a6 :: a7 :: r) := by omega
  have e2 : (dec32 (a0 :: a1 :: a2 :: a3 :: a4 :: a5 :: a6 :: a7 :: r) +
      4294967296 * dec32 (a4 :: a5 :: a6 :: a7 :: r)) / 4294967296 % 4294967296 =
      dec32 (a4 :: a5 :: a6 :: a7 :: r) := by omega
  rw [e1, e2, fixed32_dec32, fixed32_dec32]
  rfl

theorem vdecR_venc (v fuel : Nat) (rest : Bytes) (h : vlen v ≤ fuel) :
    vdecR fuel (venc v ++ rest) = some (v, rest) := by
  unfold vdecR
  rw [vdec_venc v 0 fuel rest h]
  simp only [Nat.pow_zero, Nat.mul_one]
  rw [← venc_length v, List.drop_left]

end Mtbl
