import MtblModel.TpShare
/-
  Invariants of the pool shared by any number of callers and result handlers (every reachable state, every interleaving,
  every choice pthread_cond_signal may make, spurious wake-ups included):
    * a worker thread is in exactly one place: idle, or held by exactly one caller (exclusive hand-out);
    * `count = |idle| + |held| ≤ max`;
    * NO LOST WAKE-UP: while some caller sleeps without a pending signal, every idle thread is matched by a caller that
      has been signalled and not yet resumed — so an idle thread never sits next to callers that all sleep for ever.
-/
namespace TpShare

/-- sleepers without / with a pending signal: the model's `unsignalled s`, `signalled s` are `nU s.asleep`, `nS s.asleep`
    by definition; the counting lemmas are about lists -/
def nU (l : List (Nat × Bool)) : Nat := (l.filter fun p => !p.2).length
def nS (l : List (Nat × Bool)) : Nat := (l.filter fun p => p.2).length

@[simp] theorem nU_cons_true (c : Nat) (r : List (Nat × Bool)) : nU ((c, true) :: r) = nU r := rfl
@[simp] theorem nU_cons_false (c : Nat) (r : List (Nat × Bool)) : nU ((c, false) :: r) = nU r + 1 := rfl
@[simp] theorem nS_cons_true (c : Nat) (r : List (Nat × Bool)) : nS ((c, true) :: r) = nS r + 1 := rfl
@[simp] theorem nS_cons_false (c : Nat) (r : List (Nat × Bool)) : nS ((c, false) :: r) = nS r := rfl

theorem nU_nS (l : List (Nat × Bool)) : nU l + nS l = l.length := by
  induction l with
  | nil => rfl
  | cons p r ih =>
    obtain ⟨c, b⟩ := p
    cases b
    · rw [nU_cons_false, nS_cons_false, List.length_cons]; omega
    · rw [nU_cons_true, nS_cons_true, List.length_cons]; omega

theorem signalOne_counts (l : List (Nat × Bool)) (k : Nat) (hk : k < nU l) :
    nU (signalOne l k) + 1 = nU l ∧ nS (signalOne l k) = nS l + 1 := by
  induction l generalizing k with
  | nil => cases hk
  | cons p r ih =>
    obtain ⟨c, b⟩ := p
    cases b with
    | true =>
      have := ih k hk
      simp only [signalOne, nU_cons_true, nS_cons_true]; omega
    | false =>
      cases k with
      | zero => simp only [signalOne, nU_cons_true, nS_cons_true, nU_cons_false, nS_cons_false, and_self]
      | succ k =>
        have := ih k (Nat.lt_of_succ_lt_succ hk)
        simp only [signalOne, nU_cons_false, nS_cons_false]; omega

theorem signalOne_none (l : List (Nat × Bool)) (k : Nat) (h : nU l = 0) : signalOne l k = l := by
  induction l generalizing k with
  | nil => rfl
  | cons p r ih =>
    obtain ⟨c, b⟩ := p
    cases b with
    | true => rw [signalOne, ih k h]
    | false => cases h

theorem erase_true_counts (l : List (Nat × Bool)) (c : Nat) (h : (c, true) ∈ l) :
    nU (l.erase (c, true)) = nU l ∧ nS (l.erase (c, true)) + 1 = nS l := by
  induction l with
  | nil => cases h
  | cons p r ih =>
    by_cases hp : p = (c, true)
    · subst hp; rw [List.erase_cons_head, nU_cons_true, nS_cons_true]; exact ⟨rfl, rfl⟩
    · have hr : (c, true) ∈ r := (List.mem_cons.mp h).resolve_left (fun e => hp e.symm)
      have := ih hr
      rw [List.erase_cons_tail (by simpa using hp)]
      obtain ⟨d, b⟩ := p
      cases b
      · simp only [nU_cons_false, nS_cons_false]; omega
      · simp only [nU_cons_true, nS_cons_true]; omega

theorem map_wake_counts (l : List (Nat × Bool)) (c : Nat) :
    nU (l.map fun p => if p = (c, false) then (c, true) else p) ≤ nU l ∧
    nU (l.map fun p => if p = (c, false) then (c, true) else p) + nS (l.map fun p => if p = (c, false) then (c, true) else p)
      = nU l + nS l := by
  constructor
  · induction l with
    | nil => exact Nat.le_refl _
    | cons p r ih =>
      obtain ⟨d, b⟩ := p
      by_cases h : (d, b) = (c, false)
      · cases h
        simp only [List.map_cons, if_true, nU_cons_true, nU_cons_false]; omega
      · simp only [List.map_cons, h, if_false]
        cases b
        · simp only [nU_cons_false]; omega
        · simp only [nU_cons_true]; exact ih
  · rw [nU_nS, nU_nS, List.length_map]

theorem fst_ne_of_mem_erase {l : List (Nat × Nat)} {p q : Nat × Nat} (hn : (l.map (·.1)).Nodup) (hp : p ∈ l)
    (hq : q ∈ l.erase p) : q.1 ≠ p.1 := by
  induction l with
  | nil => simp at hp
  | cons x r ih =>
    simp only [List.map_cons] at hn
    obtain ⟨hx, hr⟩ := List.nodup_cons.mp hn
    by_cases hxp : x = p
    · subst hxp
      rw [List.erase_cons_head] at hq
      intro he
      exact hx (by rw [← he]; exact List.mem_map_of_mem hq)
    · rw [List.erase_cons_tail (by simpa using hxp)] at hq
      have hp' : p ∈ r := by
        rcases List.mem_cons.mp hp with h | h
        · exact absurd h.symm hxp
        · exact h
      rcases List.mem_cons.mp hq with rfl | hq
      · intro he; exact hx (by rw [he]; exact List.mem_map_of_mem hp')
      · exact ih hr hp' hq

/-- the invariant; `slack` = 1 only in the middle of a resume (the sleeper has left the list, the loop head has not run yet) -/
structure InvW (slack : Nat) (s : PSt) : Prop where
  idleNodup : s.idle.Nodup
  heldNodup : (s.held.map (·.1)).Nodup
  disj : ∀ t ∈ s.idle, t ∉ s.held.map (·.1)
  idleLt : ∀ t ∈ s.idle, t < s.fresh
  heldLt : ∀ t ∈ s.held.map (·.1), t < s.fresh
  cnt : s.count = s.idle.length + s.held.length
  le : s.count ≤ s.max
  wake : 0 < nU s.asleep → s.idle.length ≤ nS s.asleep + slack

abbrev Inv (s : PSt) : Prop := InvW 0 s

theorem inv_init (max : Nat) : Inv { max } :=
  ⟨List.nodup_nil, List.nodup_nil, by simp, by simp, by simp, rfl, Nat.zero_le _, by simp [nU]⟩

theorem inv_loopHead {s : PSt} (c : Nat) (h : InvW 1 s) : Inv (loopHead s c) := by
  unfold loopHead
  split
  · rename_i t rest hi
    have hn := h.idleNodup; rw [hi] at hn
    obtain ⟨hn1, hn2⟩ := List.nodup_cons.mp hn
    refine ⟨hn2, ?_, ?_, ?_, ?_, ?_, h.le, ?_⟩
    · simp only [List.map_cons]
      exact List.nodup_cons.mpr ⟨h.disj t (by rw [hi]; simp), h.heldNodup⟩
    · intro u hu hm
      simp only [List.map_cons, List.mem_cons] at hm
      rcases hm with rfl | hm
      · exact hn1 hu
      · exact h.disj u (by rw [hi]; exact List.mem_cons_of_mem _ hu) hm
    · intro u hu; exact h.idleLt u (by rw [hi]; exact List.mem_cons_of_mem _ hu)
    · intro u hu
      simp only [List.map_cons, List.mem_cons] at hu
      rcases hu with rfl | hu
      · exact h.idleLt _ (by rw [hi]; simp)
      · exact h.heldLt u hu
    · have := h.cnt; rw [hi] at this; simp at this ⊢; omega
    · intro hu; have := h.wake hu; rw [hi] at this; simp at this ⊢; omega
  · rename_i hi
    split
    · rename_i hlt
      refine ⟨by rw [hi]; exact List.nodup_nil, ?_, by simp [hi], by simp [hi], ?_, ?_, by simp only; omega, by simp [hi]⟩
      · simp only [List.map_cons]
        refine List.nodup_cons.mpr ⟨fun hm => ?_, h.heldNodup⟩
        exact Nat.lt_irrefl _ (h.heldLt _ hm)
      · intro u hu
        simp only [List.map_cons, List.mem_cons] at hu
        rcases hu with rfl | hu
        · exact Nat.lt_succ_self _
        · exact Nat.lt_succ_of_lt (h.heldLt u hu)
      · have := h.cnt; simp [hi] at this ⊢; omega
    · exact ⟨h.idleNodup, h.heldNodup, h.disj, h.idleLt, h.heldLt, h.cnt, h.le, by simp [hi]⟩

theorem inv_step {s s' : PSt} {op : Op} (h : Inv s) (hs : step s op = some s') : Inv s' := by
  cases op with
  | take c =>
    simp only [step] at hs
    split at hs
    · cases hs
    · cases hs; exact inv_loopHead c ⟨h.idleNodup, h.heldNodup, h.disj, h.idleLt, h.heldLt, h.cnt, h.le, fun hu => Nat.le_succ_of_le (h.wake hu)⟩
  | resume c =>
    simp only [step] at hs
    split at hs
    · rename_i hc
      cases hs
      have hmem : (c, true) ∈ s.asleep := by simpa using hc
      obtain ⟨e1, e2⟩ := erase_true_counts s.asleep c hmem
      have h1 : InvW 1 { s with asleep := s.asleep.erase (c, true) } := by
        refine ⟨h.idleNodup, h.heldNodup, h.disj, h.idleLt, h.heldLt, h.cnt, h.le, ?_⟩
        intro hu
        simp only at hu ⊢
        rw [e1] at hu
        have := h.wake hu
        -- one signalled sleeper left the list: the idle thread it was woken for is taken (or re-slept on) right below
        omega
      exact inv_loopHead c h1
    · cases hs
  | spurious c =>
    simp only [step] at hs
    split at hs
    · cases hs
      obtain ⟨m1, m2⟩ := map_wake_counts s.asleep c
      refine ⟨h.idleNodup, h.heldNodup, h.disj, h.idleLt, h.heldLt, h.cnt, h.le, ?_⟩
      intro hu
      simp only at hu ⊢
      have := h.wake (by omega)
      omega
    · cases hs
  | give t k =>
    simp only [step] at hs
    split at hs
    · rename_i p hp
      cases hs
      have hpm : p ∈ s.held := List.mem_of_find?_eq_some hp
      have hpt : p.1 = t := by simpa using List.find?_some hp
      have hsub : ((s.held.erase p).map (·.1)).Sublist (s.held.map (·.1)) := (List.erase_sublist).map _
      have hne : ∀ u ∈ (s.held.erase p).map (·.1), u ≠ t := by
        intro u hu
        obtain ⟨q, hq, rfl⟩ := List.mem_map.mp hu
        rw [← hpt]; exact fst_ne_of_mem_erase h.heldNodup hpm hq
      refine ⟨?_, ?_, ?_, ?_, ?_, ?_, h.le, ?_⟩
      · refine List.nodup_cons.mpr ⟨fun hm => h.disj t hm (by rw [← hpt]; exact List.mem_map_of_mem hpm), h.idleNodup⟩
      · exact h.heldNodup.sublist hsub
      · intro u hu hm
        rcases List.mem_cons.mp hu with rfl | hu
        · exact hne _ hm rfl
        · exact h.disj u hu (hsub.subset hm)
      · intro u hu
        rcases List.mem_cons.mp hu with rfl | hu
        · exact h.heldLt _ (by rw [← hpt]; exact List.mem_map_of_mem hpm)
        · exact h.idleLt u hu
      · intro u hu
        exact h.heldLt u (hsub.subset hu)
      · have := h.cnt
        have hl : (s.held.erase p).length + 1 = s.held.length := by
          rw [List.length_erase_of_mem hpm]; have := List.length_pos_of_mem hpm; omega
        simp only [List.length_cons]; omega
      · intro hu
        simp only at hu ⊢
        by_cases h0 : nU s.asleep = 0
        · have : pick s k = 0 := by simp [pick, unsignalled, nU] at h0 ⊢; simp [h0]
          rw [signalOne_none _ _ h0] at hu
          omega
        · have hk : pick s k < nU s.asleep := by
            unfold pick unsignalled
            have : (s.asleep.filter fun p => !p.2).length = nU s.asleep := rfl
            rw [this, if_neg h0]
            exact Nat.mod_lt _ (Nat.pos_of_ne_zero h0)
          obtain ⟨c1, c2⟩ := signalOne_counts s.asleep (pick s k) hk
          have := h.wake (Nat.pos_of_ne_zero h0)
          simp only [List.length_cons]; omega
    · cases hs

theorem inv_reachable {max : Nat} {s : PSt} (hr : Reachable max s) : Inv s := by
  induction hr with
  | init => exact inv_init max
  | step _ hs ih => exact inv_step ih hs

theorem snd_eq_of_nodup_fst {l : List (Nat × Nat)} (hn : (l.map (·.1)).Nodup) {t c1 c2 : Nat}
    (h1 : (t, c1) ∈ l) (h2 : (t, c2) ∈ l) : c1 = c2 := by
  induction l with
  | nil => simp at h1
  | cons x r ih =>
    simp only [List.map_cons] at hn
    obtain ⟨hx, hr⟩ := List.nodup_cons.mp hn
    rcases List.mem_cons.mp h1 with e1 | m1 <;> rcases List.mem_cons.mp h2 with e2 | m2
    · rw [← e1] at e2; exact (Prod.mk.inj e2).2.symm ▸ rfl
    · exact absurd (List.mem_map_of_mem (f := (·.1)) m2) (by rw [← e1] at hx; exact hx)
    · exact absurd (List.mem_map_of_mem (f := (·.1)) m1) (by rw [← e2] at hx; exact hx)
    · exact ih hr m1 m2

theorem share_exclusive {max : Nat} {s : PSt} (hr : Reachable max s) :
    (∀ t c1 c2, (t, c1) ∈ s.held → (t, c2) ∈ s.held → c1 = c2) ∧
    (∀ t c, t ∈ s.idle → (t, c) ∉ s.held) := by
  have h := inv_reachable hr
  refine ⟨fun t c1 c2 h1 h2 => snd_eq_of_nodup_fst h.heldNodup h1 h2, fun t c hi hm => ?_⟩
  exact h.disj t hi (List.mem_map_of_mem (f := (·.1)) hm)

theorem share_bound {max : Nat} {s : PSt} (hr : Reachable max s) :
    s.count ≤ s.max ∧ s.count = s.idle.length + s.held.length :=
  ⟨(inv_reachable hr).le, (inv_reachable hr).cnt⟩

theorem share_no_lost_wakeup {max : Nat} {s : PSt} (hr : Reachable max s)
    (hsl : ∃ c, (c, false) ∈ s.asleep) (hid : s.idle ≠ []) : ∃ c, (c, true) ∈ s.asleep := by
  have h := inv_reachable hr
  obtain ⟨c, hc⟩ := hsl
  have hu : 0 < nU s.asleep := by
    unfold nU
    exact List.length_pos_of_mem (List.mem_filter.mpr ⟨hc, by simp⟩)
  have := h.wake hu
  have hpos : 0 < nS s.asleep := by
    have : 0 < s.idle.length := List.length_pos_iff.mpr hid
    omega
  obtain ⟨p, hp⟩ := List.exists_mem_of_length_pos hpos
  obtain ⟨hm, hb⟩ := List.mem_filter.mp hp
  obtain ⟨d, b⟩ := p
  simp only at hb
  subst hb
  exact ⟨d, hm⟩

/-- why the signal after EVERY push matters: if the push signals only when the idle list was empty (the change seeded as
    C13e), two callers sleeping on a full pool of two can end with an idle thread and a sleeper nobody will wake -/
theorem lazy_signal_loses_a_wakeup :
    let run := fun (s : PSt) (ops : List Op) => ops.foldl (fun s op => (stepLazySignal s op).getD s) s
    let s := run { max := 2 } [.take 0, .take 1, .take 0, .take 1, .give 0 0, .give 1 0, .resume 0]
    s.idle = [0] ∧ s.asleep = [(1, false)] := by decide

/-- the same schedule with the real signalling leaves the second caller signalled -/
example :
    let run := fun (s : PSt) (ops : List Op) => ops.foldl (fun s op => (step s op).getD s) s
    let s := run { max := 2 } [.take 0, .take 1, .take 0, .take 1, .give 0 0, .give 1 0, .resume 0]
    s.idle = [0] ∧ s.asleep = [(1, true)] := by decide

end TpShare
