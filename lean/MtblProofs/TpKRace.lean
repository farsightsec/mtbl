import MtblModel.Tp
import MtblProofs.TpKProofs
/-
  Sharing a pool adds no data race BETWEEN clients (C14, several pooled writers / sorters on one mtbl_threadpool).

  The accesses of client c's caller and result handler are those of the one-client machine (`Tp.accesses`, whose labels are
  tied to mtbl/threadpool.c by the regenerated site table, see C14_declared_in_model) evaluated on the client's view of the
  state and relabelled with the client's own result queue and mutex.  The proof uses only exclusive hand-out
  (`TpK.excl_reachable`): a client touches pool fields under pool->m, its own queue's fields under its mutex, and fields of
  worker threads it holds — and no worker is held by two clients.  `Dom`: what a thread may touch; `clientDom`, `workerDom`.
-/
namespace TpK

/-! ### client c's view as a state of the one-client machine -/
def toCPc : CPc → Tp.CPc
  | .next a => .next a
  | .create => .create
  | .assign t => .assign t
  | .enqueue t => .enqueue t
  | .finish => .finish
  | _ => .joinH            -- not started, starting, joining or done: no shared access (as `Tp.CPc.joinH`)
def toHPc : HPc → Tp.HPc
  | .deq a => .deq a
  | .waitRes t a => .waitRes t a
  | .giveBack t r => .giveBack t r
  | .callback r => .callback r
  | .exited => .exited
def toWPc : WPc → Tp.WPc
  | .top a => .top a
  | .gotJob => .gotJob
  | .selfEnq _ => .selfEnq
  | .doneOrd => .doneOrd
  | .exited => .exited
def toThr (th : Thr) : Tp.Thr := { pc := toWPc th.pc, running := th.running, cb := th.cb, res := th.res, rq := th.rq.isSome }

def view (s : St) (c : Nat) : Tp.St :=
  let cl := s.cl[c]!
  { max := s.max, njobs := s.njobs, ordered := s.ordered, thr := s.thr.map toThr, idle := s.idle, count := s.count,
    queue := cl.queue, nthreads := cl.nthreads, finished := cl.finished, cpc := toCPc cl.pc, nextJob := cl.nextJob,
    hpc := if cl.hstarted then toHPc cl.hpc else .exited, delivered := cl.delivered }

inductive KLock | pool | rq (c : Nat) | thr (t : Nat)
deriving DecidableEq, Repr
inductive KLoc
  | thrRunning (t : Nat) | thrCb (t : Nat) | thrRes (t : Nat) | thrRq (t : Nat) | thrNext (t : Nat)
  | poolHead | poolCount | rqHead (c : Nat) | rqNthreads (c : Nat) | rqFinished (c : Nat)
deriving DecidableEq, Repr
structure KAccess where
  loc : KLoc
  write : Bool
  locks : List KLock
deriving DecidableEq, Repr

def kLock (c : Nat) : Tp.Lock → KLock
  | .pool => .pool | .rq => .rq c | .thr t => .thr t
def kLoc (c : Nat) : Tp.Loc → KLoc
  | .thrRunning t => .thrRunning t | .thrCb t => .thrCb t | .thrRes t => .thrRes t | .thrRq t => .thrRq t
  | .thrNext t => .thrNext t | .poolHead => .poolHead | .poolCount => .poolCount
  | .rqHead => .rqHead c | .rqNthreads => .rqNthreads c | .rqFinished => .rqFinished c
def kAcc (c : Nat) (a : Tp.Access) : KAccess := { loc := kLoc c a.loc, write := a.write, locks := a.locks.map (kLock c) }

/-- what client c's caller (`false`) / result handler (`true`) touches in its next step -/
def clientAccesses (s : St) (c : Nat) (handler : Bool) : List KAccess :=
  (Tp.accesses (view s c) (if handler then .handler else .caller)).map (kAcc c)

def kConflict (a b : KAccess) : Bool :=
  a.loc == b.loc && (a.write || b.write) && !(a.locks.any fun l => b.locks.contains l)

def thrOf : KLoc → Option Nat
  | .thrRunning t => some t | .thrCb t => some t | .thrRes t => some t | .thrRq t => some t | .thrNext t => some t
  | _ => none
def rqOf : KLoc → Option Nat
  | .rqHead c => some c | .rqNthreads c => some c | .rqFinished c => some c
  | _ => none

/-- pool fields under pool->m; fields of c's own queue under its mutex; fields of a worker thread that c holds, or of an idle thread under
    pool->m -/
def inDomain (s : St) (c : Nat) (a : KAccess) : Bool :=
  match thrOf a.loc, rqOf a.loc with
  | some t, _ => (clView s.ordered s.cl[c]!).contains t || (s.idle.contains t && a.locks.contains .pool)
  | none, some c' => c' == c && a.locks.contains (.rq c)
  | none, none => a.locks.contains .pool


theorem shared_lock (l : KLock) (a b : KAccess) (ha : a.locks.contains l = true) (hb : b.locks.contains l = true) :
    (a.locks.any fun l => b.locks.contains l) = true :=
  List.any_eq_true.mpr ⟨l, by simpa using ha, hb⟩

/-- what a thread may touch: records of the workers in `thr` freely, of those in `thrP` under pool->m, queues in `rq` under
    their mutex, the pool's fields under pool->m -/
structure Dom where
  thr : Nat → Bool
  thrP : Nat → Bool
  rq : Nat → Bool
  pool : Bool

def Dom.has (D : Dom) (a : KAccess) : Bool :=
  match thrOf a.loc, rqOf a.loc with
  | some t, _ => D.thr t || (D.thrP t && a.locks.contains .pool)
  | none, some c => D.rq c && a.locks.contains (.rq c)
  | none, none => D.pool && a.locks.contains .pool

/-- everything else the two have in common (a queue or pool field, a record under pool->m) is accessed under a common mutex -/
theorem Dom.no_conflict {D E : Dom} (h1 : ∀ t, D.thr t = true → ¬ (E.thr t = true ∨ E.thrP t = true))
    (h2 : ∀ t, E.thr t = true → ¬ (D.thr t = true ∨ D.thrP t = true)) {a b : KAccess} (ha : D.has a = true)
    (hb : E.has b = true) : kConflict a b = false := by
  unfold kConflict
  by_cases hl : a.loc = b.loc
  · unfold Dom.has at ha hb
    rw [← hl] at hb
    have lock : ∀ l, a.locks.contains l = true → b.locks.contains l = true →
        (a.loc == b.loc && (a.write || b.write) && !(a.locks.any fun l => b.locks.contains l)) = false :=
      fun l x y => by rw [shared_lock l a b x y]; simp
    cases ht : thrOf a.loc with
    | some t =>
      simp only [ht, Bool.or_eq_true, Bool.and_eq_true] at ha hb
      rcases ha with ha | ha
      · exact absurd (hb.imp_right And.left) (h1 t ha)
      · rcases hb with hb | hb
        · exact absurd (.inr ha.1) (h2 t hb)
        · exact lock _ ha.2 hb.2
    | none =>
      cases hr : rqOf a.loc with
      | some c =>
        simp only [ht, hr, Bool.and_eq_true] at ha hb
        exact lock _ ha.2 hb.2
      | none =>
        simp only [ht, hr, Bool.and_eq_true] at ha hb
        exact lock _ ha.2 hb.2
  · simp [hl]

def clientDom (s : St) (c : Nat) : Dom :=
  { thr := (clView s.ordered s.cl[c]!).contains, thrP := s.idle.contains, rq := (· == c), pool := true }

theorem inDomain_eq (s : St) (c : Nat) (a : KAccess) : inDomain s c a = (clientDom s c).has a := by
  unfold inDomain Dom.has clientDom
  cases thrOf a.loc with
  | some t => rfl
  | none =>
    cases rqOf a.loc with
    | none => simp
    | some c' =>
      by_cases e : c' = c
      · subst e; rfl
      · have : (c' == c) = false := beq_false_of_ne e
        simp [this]

theorem caller_inDomain (s : St) (c : Nat) : (clientAccesses s c false).all (inDomain s c) = true := by
  unfold clientAccesses view
  cases hp : s.cl[c]!.pc with
  | next a =>
    cases a
    · cases hi : s.idle <;>
        simp [toCPc, hp, hi, Tp.accesses, Tp.acc, kAcc, kLoc, kLock, inDomain, thrOf, rqOf]
    · simp [toCPc, hp, Tp.accesses]
  | enqueue t =>
    cases ho : s.ordered <;>
      simp [toCPc, hp, ho, Tp.accesses, Tp.acc, kAcc, kLoc, kLock, inDomain, thrOf, rqOf, clView, cHand]
  | assign t => simp [toCPc, hp, Tp.accesses, Tp.acc, kAcc, kLoc, kLock, inDomain, thrOf, rqOf, clView, cHand]
  | _ => simp [toCPc, hp, Tp.accesses, Tp.acc, kAcc, kLoc, kLock, inDomain, thrOf, rqOf]

theorem handler_inDomain (s : St) (c : Nat) : (clientAccesses s c true).all (inDomain s c) = true := by
  unfold clientAccesses view
  cases hs : s.cl[c]!.hstarted
  · simp [hs, Tp.accesses]
  · cases hp : s.cl[c]!.hpc with
    | deq a =>
      cases a
      · cases hq : s.cl[c]!.queue <;>
          simp [toHPc, hp, hs, hq, Tp.accesses, Tp.acc, kAcc, kLoc, kLock, inDomain, thrOf, rqOf, clView]
      · simp [toHPc, hp, hs, Tp.accesses]
    | waitRes t a =>
      cases a
      · simp only [toHPc, hp, hs, Tp.accesses, if_true]
        split <;> simp [Tp.acc, kAcc, kLoc, kLock, inDomain, thrOf, rqOf, clView, hHand, hp]
      · simp [toHPc, hp, hs, Tp.accesses]
    | giveBack t r => simp [toHPc, hp, hs, Tp.accesses, Tp.acc, kAcc, kLoc, kLock, inDomain, thrOf, rqOf, clView, hHand]
    | _ => simp [toHPc, hp, hs, Tp.accesses]


theorem client_inDomain (s : St) (c : Nat) (r : Bool) : ∀ a ∈ clientAccesses s c r, (clientDom s c).has a = true := by
  intro a ha
  rw [← inDomain_eq]
  cases r
  · exact List.all_eq_true.mp (caller_inDomain s c) a ha
  · exact List.all_eq_true.mp (handler_inDomain s c) a ha

theorem clientDom_free {s : St} (h : Excl s) {c c' : Nat} (hne : c ≠ c') (t : Nat) (m : (clientDom s c).thr t = true) :
    ¬ ((clientDom s c').thr t = true ∨ (clientDom s c').thrP t = true) := by
  have hc := h.client (List.contains_iff_mem.mp m)
  rintro (x | x)
  · exact hc.2.2.2.2.2 c' hne.symm (List.contains_iff_mem.mp x)
  · exact hc.1 (List.contains_iff_mem.mp x)

theorem clients_no_conflict {s : St} (hE : Excl s) {c1 c2 : Nat} (hne : c1 ≠ c2) (r1 r2 : Bool) :
    ∀ a ∈ clientAccesses s c1 r1, ∀ b ∈ clientAccesses s c2 r2, kConflict a b = false :=
  fun a ha b hb => Dom.no_conflict (clientDom_free hE hne) (clientDom_free hE hne.symm) (client_inDomain s c1 r1 a ha)
    (client_inDomain s c2 r2 b hb)

/-- NO RACE BETWEEN CLIENTS: in every reachable state of the k-client machine, no access of the caller or result handler of
    one client conflicts with an access of the caller or result handler of another client -/
theorem no_cross_client_race {n max njobs : Nat} {o : Bool} {s : St} (hr : Reachable n max njobs o s)
    {c1 c2 : Nat} (_ : c1 < s.cl.size) (_ : c2 < s.cl.size) (hne : c1 ≠ c2) (r1 r2 : Bool) :
    ∀ a ∈ clientAccesses s c1 r1, ∀ b ∈ clientAccesses s c2 r2, kConflict a b = false :=
  clients_no_conflict (excl_reachable hr) hne r1 r2

def enqClient (s : St) (t : Nat) : Nat := match (s.thr[t]?).map (·.pc) with | some (WPc.selfEnq c) => c | _ => 0

/-- what worker t touches in its next step (labels of the one-client machine; the queue it enters is its job's client's) -/
def workerAccesses (s : St) (t : Nat) : List KAccess :=
  (Tp.accesses (view s (enqClient s t)) (.worker t)).map (kAcc (enqClient s t))

/-- worker t is working for client c: c holds it (ordered dispatch), or it carries an unordered job of c -/
def worksFor (s : St) (t c : Nat) : Prop :=
  t ∈ clView s.ordered s.cl[c]! ∨ s.thr[t]!.rq = some c ∨ s.thr[t]!.pc = .selfEnq c

def workerDom (s : St) (t : Nat) : Dom :=
  { thr := (· == t), thrP := fun _ => false, rq := fun c => (s.thr[t]?).map (·.pc) == some (.selfEnq c), pool := false }

theorem worker_inDomain (s : St) (t : Nat) : (workerAccesses s t).all (workerDom s t).has = true := by
  unfold workerAccesses view enqClient
  cases hth : s.thr[t]? with
  | none => simp [Tp.accesses, hth]
  | some th =>
    cases hp : th.pc with
    | top a => cases a <;> simp [Tp.accesses, hth, hp, toThr, toWPc, Tp.acc, kAcc, kLoc, kLock, Dom.has, workerDom, thrOf]
    | gotJob =>
      cases hr : th.rq <;>
        simp [Tp.accesses, hth, hp, hr, toThr, toWPc, Tp.acc, kAcc, kLoc, Dom.has, workerDom, thrOf]
    | selfEnq c => simp [Tp.accesses, hth, hp, toThr, toWPc, Tp.acc, kAcc, kLoc, kLock, Dom.has, workerDom, thrOf, rqOf]
    | doneOrd => simp [Tp.accesses, hth, hp, toThr, toWPc, Tp.acc, kAcc, kLoc, kLock, Dom.has, workerDom, thrOf]
    | exited => simp [Tp.accesses, hth, hp, toThr, toWPc]

theorem worker_client_no_conflict {s : St} {t c : Nat} (h1 : t ∉ clView s.ordered s.cl[c]!) (h2 : t ∉ s.idle) (r : Bool) :
    ∀ a ∈ workerAccesses s t, ∀ b ∈ clientAccesses s c r, kConflict a b = false := by
  refine fun a ha b hb => Dom.no_conflict (fun u m => ?_) (fun u m => ?_) (List.all_eq_true.mp (worker_inDomain s t) a ha)
    (client_inDomain s c r b hb)
  · rw [show u = t from by simpa [workerDom] using m]
    rintro (x | x)
    · exact h1 (List.contains_iff_mem.mp x)
    · exact h2 (List.contains_iff_mem.mp x)
  · rintro (x | x)
    · rw [show u = t from by simpa [workerDom] using x] at m
      exact h1 (List.contains_iff_mem.mp m)
    · cases x

theorem Excl.worker_free {s : St} (h : Excl s) {t c c' : Nat} (hne : c ≠ c') (hw : worksFor s t c) :
    t ∉ clView s.ordered s.cl[c']! ∧ t ∉ s.idle := by
  rcases hw with hw | hw | hw
  · exact ⟨(h.client hw).2.2.2.2.2 c' hne.symm, (h.client hw).1⟩
  · have := h.self (t := t) (by simp only [wN, hw, Option.isSome_some, if_true]; omega)
    exact ⟨this.2.2 c', this.1⟩
  · have := h.self (t := t) (by simp [wN, hw])
    exact ⟨this.2.2 c', this.1⟩

/-- NO RACE BETWEEN A CLIENT AND ANOTHER CLIENT'S WORKERS: a worker thread working for client c never conflicts with the
    caller or result handler of a different client c' -/
theorem no_worker_client_race {n max njobs : Nat} {o : Bool} {s : St} (hr : Reachable n max njobs o s)
    {t c c' : Nat} (_ : c < s.cl.size) (_ : c' < s.cl.size) (hne : c ≠ c') (hw : worksFor s t c) (r : Bool) :
    ∀ a ∈ workerAccesses s t, ∀ b ∈ clientAccesses s c' r, kConflict a b = false :=
  have hf := (excl_reachable hr).worker_free hne hw
  worker_client_no_conflict hf.1 hf.2 r

/-- non-vacuity: outside the reachable set the predicate does fire — two clients both holding worker 0 -/
def twoHolders : St :=
  { max := 1, njobs := 1, ordered := true, count := 1, thr := #[{}], opc := .joinC 0,
    cl := #[{ pc := .assign 0, hstarted := true }, { pc := .assign 0, hstarted := true }] }
example : ∃ a ∈ clientAccesses twoHolders 0 false, ∃ b ∈ clientAccesses twoHolders 1 false, kConflict a b = true := by
  decide

end TpK
