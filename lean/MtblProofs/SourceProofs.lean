import MtblModel.Source
import MtblProofs.GateProofs
/-
  mtbl_source_write: it succeeds and leaves the writer in the state of `addAll` exactly when every add is accepted; on a
  strictly sorted source (e.g. any merger with a merge function, C04_merge) everything is written.
-/
namespace Mtbl

theorem writeFrom_of_all_success (w : W) (es : List Entry) (h : ∀ r ∈ (w.addAll es).1, r = Res.success) :
    w.writeFrom es = (.success, (w.addAll es).2) := by
  induction es generalizing w with
  | nil => rfl
  | cons e es ih =>
    rw [Gate.addAll_cons] at h ⊢
    have h1 : (w.add e.key e.val).1 = .success := h _ List.mem_cons_self
    have h2 := ih (w.add e.key e.val).2 (fun r hr => h r (List.mem_cons_of_mem _ hr))
    simp only [W.writeFrom, h1, if_true]
    exact h2

theorem writeFrom_stops (w : W) (pre : List Entry) (e : Entry) (rest : List Entry)
    (hp : ∀ r ∈ (w.addAll pre).1, r = Res.success) (he : ((w.addAll pre).2.add e.key e.val).1 = .failure) :
    w.writeFrom (pre ++ e :: rest) = (.failure, (w.addAll pre).2) := by
  induction pre generalizing w with
  | nil =>
    simp only [List.nil_append, W.writeFrom, Gate.addAll_nil] at he ⊢
    rw [he]; simp only [reduceCtorEq, if_false]
    have := C08_refused_noop w e.key e.val he
    rw [Prod.ext_iff]; exact ⟨he, this⟩
  | cons p pre ih =>
    rw [Gate.addAll_cons] at hp he ⊢
    have h1 : (w.add p.key p.val).1 = .success := hp _ List.mem_cons_self
    simp only [List.cons_append, W.writeFrom, h1, if_true]
    exact ih (w.add p.key p.val).2 (fun r hr => hp r (List.mem_cons_of_mem _ hr)) he

theorem sourceWrite_sorted (cfg : WCfg) (pre : Nat) (es : List Entry) (hs : StrictSorted es) :
    (W.new cfg pre).writeFrom es = (.success, ((W.new cfg pre).addAll es).2) := by
  apply writeFrom_of_all_success
  rw [C08_history cfg pre es, (Gate.sorted_gen none es hs (fun _ h => by cases h)).1]
  intro r hr
  obtain ⟨_, _, rfl⟩ := List.mem_map.mp hr
  rfl

end Mtbl
