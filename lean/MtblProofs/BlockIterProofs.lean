import MtblProofs.BlockDefs
import MtblProofs.OrderProofs
/-
  Algorithmic correctness of the block iterator (mtbl/block.c) from ANY iterator state,
  using only the abstract facts `BlockOK` / `BRep` / `BPre` of BlockDefs.lean.
-/
namespace Mtbl

theorem BlockView.getElem? (v : BlockView) {i : Nat} (hi : i < v.n) :
    v.ents[i]? = some ⟨v.key i, v.val i⟩ := by
  have hi' : i < v.ents.length := hi
  simp only [key, val, List.getD_eq_getElem?_getD, List.getElem?_eq_getElem hi', Option.getD_some]

namespace BRep
variable {b : Blk} {v : BlockView} {bi : BI} {p : Nat}

theorem eq_n (h : BRep b v bi p) (hp : ¬ p < v.n) : p = v.n := Nat.le_antisymm h.p_le (Nat.not_lt.mp hp)
theorem key_eq (h : BRep b v bi p) (hp : p < v.n) : bi.key = v.key p := (h.at_entry hp).2.2.1
theorem val_eq (h : BRep b v bi p) (hp : p < v.n) : bi.val = v.val p := (h.at_entry hp).2.2.2.1
theorem ri_lt (h : BRep b v bi p) (hp : p < v.n) : bi.restartIndex < v.nr := (h.at_entry hp).2.2.2.2.1

/-- an exhausted iterator has `restartIndex = nr`: any other value means it stands on an entry -/
theorem lt_of_ri_ne (h : BRep b v bi p) (hri : bi.restartIndex ≠ v.nr) : p < v.n :=
  Decidable.by_contra fun hp => hri (h.at_end (h.eq_n hp)).2

end BRep

theorem BPre.eq_n {b : Blk} {v : BlockView} {bi : BI} {q : Nat} (h : BPre b v bi q) (hq : ¬ q < v.n) :
    q = v.n := Nat.le_antisymm h.q_le (Nat.not_lt.mp hq)

namespace BlockIter

theorem lowerBound_iff {v : BlockView} {t : Bytes} {q : Nat} :
    lowerBound v.ents t = q ↔
      q ≤ v.n ∧ (∀ i, i < q → bcmp (v.key i) t = .lt) ∧ (q < v.n → bcmp (v.key q) t ≠ .lt) := by
  rw [lowerBound_eq_iff]
  refine and_congr_right fun hq => and_congr
    ⟨fun h i hi => h i _ hi (v.getElem? (Nat.lt_of_lt_of_le hi hq)), fun h i e hi he => ?_⟩
    ⟨fun h hq' => h _ (v.getElem? hq'), fun h e he => ?_⟩
  · rw [v.getElem? (Nat.lt_of_lt_of_le hi hq)] at he
    cases he
    exact h i hi
  · have hq' : q < v.n := (List.getElem?_eq_some_iff.mp he).1
    rw [v.getElem? hq'] at he
    cases he
    exact h hq'

theorem key_lt_of_sorted {v : BlockView} (hs : StrictSorted v.ents) {i j : Nat} (hij : i < j)
    (hj : j < v.n) : bcmp (v.key i) (v.key j) = .lt :=
  hs.getElem?_lt hij (v.getElem? (Nat.lt_trans hij hj)) (v.getElem? hj)

theorem off_lt {b : Blk} {v : BlockView} (ok : BlockOK b v) {i : Nat} :
    ∀ {j : Nat}, i < j → j ≤ v.n → v.off i < v.off j := by
  intro j
  induction j with
  | zero => intro h; omega
  | succ j ih =>
    intro hij hj
    have h1 := ok.off_mono j (by omega)
    by_cases h : i = j
    · subst h; exact h1
    · have := ih (by omega) (by omega); omega

theorem off_lt_iff {b : Blk} {v : BlockView} (ok : BlockOK b v) {i j : Nat}
    (hi : i ≤ v.n) (hj : j ≤ v.n) : v.off i < v.off j ↔ i < j := by
  refine ⟨fun h => ?_, fun h => off_lt ok h hj⟩
  rcases Nat.lt_trichotomy i j with hij | rfl | hij
  · exact hij
  · omega
  · have := off_lt ok hij hi; omega

theorem off_lt_restart {b : Blk} {v : BlockView} (ok : BlockOK b v) {i : Nat} (hi : i < v.n) :
    v.off i < b.restartOffset := by
  rw [← ok.off_last]; exact off_lt ok hi (Nat.le_refl _)

theorem r_le_n {b : Blk} {v : BlockView} (ok : BlockOK b v) {j : Nat} (hj : j < v.nr) :
    v.r j ≤ v.n := by
  have := ok.r_lt j hj; omega

theorem r_lt_n {b : Blk} {v : BlockView} (ok : BlockOK b v) {j : Nat} (hj : j < v.nr)
    (hn : 0 < v.n) : v.r j < v.n := by
  have := ok.r_lt j hj; omega

theorem r_mem {v : BlockView} {j : Nat} (hj : j < v.nr) : v.r j ∈ v.rs := by
  have hj' : j < v.rs.length := hj
  simp only [BlockView.r, List.getD_eq_getElem?_getD, List.getElem?_eq_getElem hj',
    Option.getD_some]
  exact List.getElem_mem hj'

theorem bump_cond {b : Blk} {v : BlockView} (ok : BlockOK b v) {bi : BI} {q ri : Nat}
    (hb : bi.blk = b) (hr : bi.restarts = b.restartOffset) (hn : bi.numRestarts = v.nr)
    (hc : bi.current = v.off q) (hq : q ≤ v.n) :
    (ri + 1 < bi.numRestarts ∧ getRestartPoint bi (ri + 1) < bi.current) ↔
    (ri + 1 < v.nr ∧ v.r (ri + 1) < q) := by
  rw [hn]
  refine and_congr_right fun h1 => ?_
  rw [ok.restart_pt bi (ri + 1) hb hr h1, hc, off_lt_iff ok (r_le_n ok h1) hq]

theorem bump_stop {b : Blk} {v : BlockView} (ok : BlockOK b v) {bi : BI} {q ri : Nat}
    (hb : bi.blk = b) (hr : bi.restarts = b.restartOffset) (hn : bi.numRestarts = v.nr)
    (hc : bi.current = v.off q) (hq : q ≤ v.n)
    (hs : ¬ (ri + 1 < v.nr ∧ v.r (ri + 1) < q)) (f : Nat) : bumpRestart bi f ri = ri := by
  cases f with
  | zero => rfl
  | succ f =>
    unfold bumpRestart
    rw [if_neg]
    rw [bump_cond ok hb hr hn hc hq]; exact hs

/-- the restart-index bump loop runs at most once and re-establishes the tight invariant -/
theorem bump_spec {b : Blk} {v : BlockView} (ok : BlockOK b v) {bi : BI} {q ri : Nat}
    (hb : bi.blk = b) (hr : bi.restarts = b.restartOffset) (hn : bi.numRestarts = v.nr)
    (hc : bi.current = v.off q) (hq : q ≤ v.n)
    (h1 : ri < v.nr) (h2 : v.r ri ≤ q) (h3 : ri + 1 < v.nr → q ≤ v.r (ri + 1) + 1) (f : Nat) :
    bumpRestart bi f ri < v.nr ∧ v.r (bumpRestart bi f ri) ≤ q ∧
    (0 < f → bumpRestart bi f ri + 1 < v.nr → q ≤ v.r (bumpRestart bi f ri + 1)) := by
  cases f with
  | zero => exact ⟨h1, h2, fun h => absurd h (Nat.lt_irrefl _)⟩
  | succ f =>
    by_cases hs : ri + 1 < v.nr ∧ v.r (ri + 1) < q
    · have h3' := h3 hs.1
      have hnext : ∀ h4 : ri + 1 + 1 < v.nr, q ≤ v.r (ri + 1 + 1) := fun h4 => by
        have := ok.r_mono (ri + 1) h4
        omega
      have e : bumpRestart bi (f + 1) ri = ri + 1 := by
        conv => lhs; unfold bumpRestart
        rw [if_pos ((bump_cond ok hb hr hn hc hq).mpr hs)]
        exact bump_stop ok hb hr hn hc hq (fun h => Nat.lt_irrefl _ (Nat.lt_of_lt_of_le h.2 (hnext h.1))) f
      rw [e]
      exact ⟨hs.1, Nat.le_of_lt hs.2, fun _ => hnext⟩
    · rw [bump_stop ok hb hr hn hc hq hs]
      exact ⟨h1, h2, fun _ h4 => Nat.not_lt.mp fun h => hs ⟨h4, h⟩⟩

end BlockIter

open BlockIter

theorem biInit_spec {b v} (ok : BlockOK b v) : ∃ bi, biInit b = some bi ∧ BRep b v bi v.n := by
  have h1 : ¬ b.size < 8 := Nat.not_lt.mpr ok.size_ok
  have h2 : ¬ numRestarts b = 0 := by rw [ok.nr_ok]; exact Nat.ne_of_gt ok.nr_pos
  refine ⟨_, by simp only [biInit, h1, h2, if_false]; rfl, ?_⟩
  exact { blk_eq := rfl, restarts_eq := rfl, nr_eq := ok.nr_ok, p_le := Nat.le_refl _,
          at_entry := fun h => absurd h (Nat.lt_irrefl _),
          at_end := fun _ => ⟨rfl, ok.nr_ok⟩ }

theorem parseNextKey_spec {b v bi q} (ok : BlockOK b v) (h : BPre b v bi q) :
    (q < v.n → (parseNextKey bi).1 = true ∧ BRep b v (parseNextKey bi).2 q) ∧
    (q = v.n → (parseNextKey bi).1 = false ∧ BRep b v (parseNextKey bi).2 v.n) := by
  constructor
  · intro hq
    obtain ⟨sh, ns, vl, p, hdec, hsh0, hshle, hkey, hval, hoff, hrs⟩ := ok.entry q hq
    have hlt : ¬ (bi.next ≥ bi.restarts) := by
      rw [h.next_eq, h.restarts_eq]; exact Nat.not_le.mpr (off_lt_restart ok hq)
    have hdec' : decodeEntryAt bi.blk.data bi.next bi.restarts = some (sh, ns, vl, p) := by
      rw [h.blk_eq, h.next_eq, h.restarts_eq]; exact hdec
    simp only [parseNextKey, hlt, if_false, hdec']
    refine ⟨trivial, ?_⟩
    have hk : List.take sh bi.key = List.take sh (v.key (q - 1)) := by
      rcases h.key_ok with ⟨_, hk⟩ | ⟨hm, hk⟩
      · rw [hk]
      · rw [hrs hm]; rfl
    obtain ⟨hb1, hb2, hb3⟩ := bump_spec ok
      (bi := { blk := bi.blk, restarts := bi.restarts, numRestarts := bi.numRestarts,
               current := bi.next, restartIndex := bi.restartIndex, next := p + ns + vl,
               key := List.take sh bi.key ++ List.take ns (List.drop p bi.blk.data),
               val := List.take vl (List.drop (p + ns) bi.blk.data) })
      (q := q) (ri := bi.restartIndex) h.blk_eq h.restarts_eq h.nr_eq h.next_eq h.q_le
      h.ri_lt h.ri_lo h.ri_hi bi.numRestarts
    have hfuel : 0 < bi.numRestarts := by rw [h.nr_eq]; exact ok.nr_pos
    exact { blk_eq := h.blk_eq, restarts_eq := h.restarts_eq, nr_eq := h.nr_eq, p_le := h.q_le,
            at_entry := fun _ => ⟨h.next_eq, hoff.symm, by rw [hk, h.blk_eq]; exact hkey.symm,
              by rw [h.blk_eq]; exact hval.symm, hb1, hb2, hb3 hfuel⟩,
            at_end := fun e => absurd e (Nat.ne_of_lt hq) }
  · intro hq
    have hge : bi.next ≥ bi.restarts := by
      rw [h.next_eq, h.restarts_eq, hq, ok.off_last]; exact Nat.le_refl _
    simp only [parseNextKey, hge, if_true]
    refine ⟨trivial, ?_⟩
    exact { blk_eq := h.blk_eq, restarts_eq := h.restarts_eq, nr_eq := h.nr_eq,
            p_le := Nat.le_refl _, at_entry := fun e => absurd e (Nat.lt_irrefl _),
            at_end := fun _ => ⟨h.restarts_eq, h.nr_eq⟩ }

theorem parseNextKey_rep {b v bi q} (ok : BlockOK b v) (h : BPre b v bi q) :
    BRep b v (parseNextKey bi).2 q := by
  by_cases hq : q < v.n
  · exact ((parseNextKey_spec ok h).1 hq).2
  · have e := h.eq_n hq
    have := ((parseNextKey_spec ok h).2 e).2
    rwa [← e] at this

theorem seekToRestartPoint_pre {b v bi j} (ok : BlockOK b v) (hb : bi.blk = b)
    (hr : bi.restarts = b.restartOffset) (hn : bi.numRestarts = v.nr) (hj : j < v.nr) :
    BPre b v (seekToRestartPoint bi j) (v.r j) :=
  { blk_eq := hb, restarts_eq := hr, nr_eq := hn, q_le := r_le_n ok hj,
    next_eq := ok.restart_pt bi j hb hr hj,
    key_ok := Or.inr ⟨r_mem hj, rfl⟩,
    ri_lt := hj, ri_lo := Nat.le_refl _,
    ri_hi := fun h => Nat.le_succ_of_le (Nat.le_of_lt (ok.r_mono j h)) }

theorem BRep_pre_next {b v bi p} (h : BRep b v bi p) (hp : p < v.n) :
    BPre b v bi (p + 1) := by
  obtain ⟨_, h2, h3, _, h5, h6, h7⟩ := h.at_entry hp
  exact { blk_eq := h.blk_eq, restarts_eq := h.restarts_eq, nr_eq := h.nr_eq, q_le := hp,
          next_eq := h2, key_ok := Or.inl ⟨Nat.succ_pos _, h3⟩,
          ri_lt := h5, ri_lo := Nat.le_succ_of_le h6, ri_hi := fun e => Nat.succ_le_succ (h7 e) }

/-- position 0 is the first entry, or "exhausted" in an empty block -/
theorem biSeekToFirst_spec {b v bi p} (ok : BlockOK b v) (h : BRep b v bi p) :
    BRep b v (biSeekToFirst bi) 0 := by
  have hpre := seekToRestartPoint_pre (j := 0) ok h.blk_eq h.restarts_eq h.nr_eq ok.nr_pos
  rw [ok.r_zero] at hpre
  exact parseNextKey_rep ok hpre

theorem biValid_iff {b v bi p} (ok : BlockOK b v) (h : BRep b v bi p) :
    biValid bi = true ↔ p < v.n := by
  unfold biValid
  rw [decide_eq_true_iff]
  constructor
  · intro hc
    refine Decidable.by_contra fun hp => ?_
    rw [(h.at_end (h.eq_n hp)).1, h.restarts_eq] at hc
    exact Nat.lt_irrefl _ hc
  · intro hp
    rw [(h.at_entry hp).1, h.restarts_eq]; exact off_lt_restart ok hp

theorem biValid_eq_false {b v bi} (ok : BlockOK b v) (h : BRep b v bi v.n) : biValid bi = false := by
  rw [← Bool.not_eq_true, biValid_iff ok h]; exact Nat.lt_irrefl _

theorem biNext_spec {b v bi p} (ok : BlockOK b v) (h : BRep b v bi p) :
    BRep b v (biNext bi) (min (p + 1) v.n) := by
  unfold biNext
  by_cases hp : p < v.n
  · rw [(biValid_iff ok h).mpr hp, Nat.min_eq_left hp]
    exact parseNextKey_rep ok (BRep_pre_next h hp)
  · have e := h.eq_n hp
    subst e
    rw [biValid_eq_false ok h, Nat.min_eq_right (Nat.le_succ _)]
    exact h

theorem cmpRestart_spec {b v bi j t} (ok : BlockOK b v) (hb : bi.blk = b)
    (hr : bi.restarts = b.restartOffset) (hj : j < v.nr) (hn : 0 < v.n) :
    cmpRestart bi j t = bcmp (v.key (v.r j)) t := by
  obtain ⟨sh, ns, vl, p, hdec, _, _, hkey, _, _, hrs⟩ := ok.entry (v.r j) (r_lt_n ok hj hn)
  have hsh := hrs (r_mem hj)
  unfold cmpRestart
  rw [ok.restart_pt bi j hb hr hj, hb, hr, hdec]
  simp only
  rw [hkey, hsh]
  rfl

/-! ### galloping + binary search over the restart array

  Both loops move `left` only to a restart whose key compared `< t`.  That is all `block_iter_seek` needs of
  them: whatever they return is a place from which the linear scan cannot overshoot. -/

namespace BlockIter

/-- restart `l` is a safe place to start the linear scan for `t`: everything before it is `< t` -/
def LowOK (v : BlockView) (t : Bytes) (l : Nat) : Prop :=
  l < v.nr ∧ ∀ i, i < v.r l → bcmp (v.key i) t = .lt

theorem lowOK_zero {b v} (ok : BlockOK b v) (t : Bytes) : LowOK v t 0 :=
  ⟨ok.nr_pos, fun i hi => by rw [ok.r_zero] at hi; exact absurd hi (Nat.not_lt_zero _)⟩

/-- a restart whose key is `< t` is safe (in an empty block the only restart is entry 0) -/
theorem lowOK_of_cmp {b v bi j t} (ok : BlockOK b v) (hb : bi.blk = b)
    (hr : bi.restarts = b.restartOffset) (hj : j < v.nr) (hc : cmpRestart bi j t = .lt) :
    LowOK v t j := by
  refine ⟨hj, fun i hi => ?_⟩
  have hn : 0 < v.n := by have := ok.r_lt j hj; omega
  rw [cmpRestart_spec ok hb hr hj hn] at hc
  exact bcmp_lt_trans (key_lt_of_sorted ok.sorted hi (r_lt_n ok hj hn)) hc

theorem gallop_spec {b v bi t} (ok : BlockOK b v) (hb : bi.blk = b)
    (hr : bi.restarts = b.restartOffset) (hnr : bi.numRestarts = v.nr) :
    ∀ (f i incr left : Nat), i < v.nr → LowOK v t left →
      LowOK v t (gallop bi t f i incr left).1 ∧ (gallop bi t f i incr left).2 < v.nr := by
  intro f
  induction f with
  | zero => intro i incr left hi hl; exact ⟨hl, hi⟩
  | succ f ih =>
    intro i incr left hi hl
    unfold gallop
    split
    · next hc =>
      have hli := lowOK_of_cmp ok hb hr hi (beq_iff_eq.mp hc)
      simp only
      split
      · exact ⟨hli, by rw [hnr]; exact Nat.sub_lt ok.nr_pos Nat.one_pos⟩
      · next hov => exact ih _ _ i (by rw [hnr] at hov; omega) hli
    · exact ⟨hl, hi⟩

theorem bsearch_spec {b v bi t} (ok : BlockOK b v) (hb : bi.blk = b)
    (hr : bi.restarts = b.restartOffset) :
    ∀ (f left right : Nat), right < v.nr → LowOK v t left → LowOK v t (bsearch bi t f left right) := by
  intro f
  induction f with
  | zero => intro left right _ hl; exact hl
  | succ f ih =>
    intro left right hrt hl
    unfold bsearch
    split
    · next hlr =>
      have hmid : (left + right + 1) / 2 < v.nr := by omega
      simp only
      split
      · next hc => exact ih _ _ hrt (lowOK_of_cmp ok hb hr hmid (beq_iff_eq.mp hc))
      · exact ih _ _ (by omega) hl
    · exact hl

theorem seekBounds_spec {b v bi p t} (ok : BlockOK b v) (h : BRep b v bi p) :
    LowOK v t (seekBounds bi t).1 ∧ (seekBounds bi t).2 < v.nr := by
  unfold seekBounds
  split
  · next hc =>
    simp only [Bool.and_eq_true, bne_iff_ne, ne_eq, h.nr_eq] at hc
    exact gallop_spec ok h.blk_eq h.restarts_eq h.nr_eq _ _ _ _
      (h.ri_lt (h.lt_of_ri_ne (Ne.symm hc.1))) (lowOK_zero ok t)
  · exact ⟨lowOK_zero ok t, by rw [h.nr_eq]; exact Nat.sub_lt ok.nr_pos Nat.one_pos⟩

theorem seekLeft_low {b v bi p t} (ok : BlockOK b v) (h : BRep b v bi p) : LowOK v t (seekLeft bi t) := by
  have hsb := seekBounds_spec (t := t) ok h
  unfold seekLeft
  simp only
  split
  · exact bsearch_spec ok h.blk_eq h.restarts_eq _ _ _ hsb.2 hsb.1
  · exact hsb.1

end BlockIter

theorem linear_spec {b v bi q t} (ok : BlockOK b v) (h : BPre b v bi q)
    (hlt : ∀ i, i < q → bcmp (v.key i) t = .lt) (fuel : Nat) (hf : v.n - q < fuel) :
    BRep b v (linear t fuel bi) (lowerBound v.ents t) := by
  induction fuel generalizing bi q with
  | zero => omega
  | succ f ih =>
    have hs := parseNextKey_spec ok h
    unfold linear
    simp only
    by_cases hq : q < v.n
    · obtain ⟨h1, h2⟩ := hs.1 hq
      simp only [h1, Bool.not_true, Bool.false_eq_true, if_false, h2.key_eq hq]
      split
      · next hc => rwa [lowerBound_iff.mpr ⟨h.q_le, hlt, fun _ => bne_iff_ne.mp hc⟩]
      · next hc =>
        have hc : bcmp (v.key q) t = .lt := Decidable.by_contra fun hn => hc (bne_iff_ne.mpr hn)
        refine ih (BRep_pre_next h2 hq) (fun i hi => ?_) (by omega)
        rcases Nat.lt_succ_iff_lt_or_eq.mp hi with hi | rfl
        · exact hlt i hi
        · exact hc
    · have e := h.eq_n hq
      obtain ⟨h1, h2⟩ := hs.2 e
      simp only [h1, Bool.not_false, if_true]
      rwa [lowerBound_iff.mpr ⟨h.q_le, hlt, fun hh => absurd hh hq⟩, e]

namespace BlockIter

theorem decodeEntryAt_some_lt {data : Bytes} {p limit : Nat} {x}
    (h : decodeEntryAt data p limit = some x) : p < data.length := by
  refine Decidable.by_contra fun hp => ?_
  have hd : data.drop p = [] := List.drop_eq_nil_of_le (Nat.not_lt.mp hp)
  have hv : vdecR 5 ([] : Bytes) = none := rfl
  unfold decodeEntryAt at h
  simp only [hd, List.take_nil, hv] at h
  split at h <;> cases h

theorem le_off {b : Blk} {v : BlockView} (ok : BlockOK b v) : ∀ i, i ≤ v.n → i ≤ v.off i := by
  intro i
  induction i with
  | zero => intro _; exact Nat.zero_le _
  | succ i ih => intro hi; have := ih (by omega); have := ok.off_mono i (by omega); omega

/-- every entry starts inside the data and takes at least one byte: the fuel `data.length + 1` of the linear
    scan is enough -/
theorem n_le_data {b : Blk} {v : BlockView} (ok : BlockOK b v) : v.n ≤ b.data.length := by
  by_cases hn : v.n = 0
  · omega
  · obtain ⟨_, _, _, _, hdec, _⟩ := ok.entry (v.n - 1) (by omega)
    have := decodeEntryAt_some_lt hdec
    have := le_off ok (v.n - 1) (by omega)
    omega

end BlockIter

/-- **block_iter_seek** from any iterator state lands on the lower bound of the target
    (`blockSeek_spec` below is this with a size hypothesis that `BlockOK` already gives) -/
theorem blockSeek_spec' {b v bi p t} (ok : BlockOK b v) (h : BRep b v bi p) :
    BRep b v (biSeek bi t) (lowerBound v.ents t) := by
  obtain ⟨hl1, hl2⟩ := seekLeft_low (t := t) ok h
  have hfuel : ∀ q, v.n - q < bi.blk.data.length + 1 := fun q => by
    have := n_le_data ok; rw [h.blk_eq]; omega
  -- if the tracked restart index equals `left`, the iterator stands on an entry
  have hvalid : bi.restartIndex = seekLeft bi t → p < v.n :=
    fun e => h.lt_of_ri_ne (by rw [e]; exact Nat.ne_of_lt hl1)
  unfold biSeek
  simp only
  split
  · -- (a) shortcut: already standing on the key
    next hA =>
    simp only [Bool.and_eq_true, beq_iff_eq] at hA
    have hp := hvalid hA.1
    have hk : v.key p = t := by rw [← h.key_eq hp]; exact (bcmp_eq_iff _ _).mp hA.2
    rwa [lowerBound_iff.mpr ⟨h.p_le, fun i hi => hk ▸ key_lt_of_sorted ok.sorted hi hp,
      fun _ => by rw [hk, bcmp_refl]; exact nofun⟩]
  · split
    · -- (c) restart from restart point `left`
      exact linear_spec ok (seekToRestartPoint_pre ok h.blk_eq h.restarts_eq h.nr_eq hl1) hl2 _ (hfuel _)
    · -- (b) same restart run and current key < target: continue from the current entry
      next hB =>
      simp only [Bool.not_eq_true, Bool.not_eq_false', Bool.and_eq_true, beq_iff_eq] at hB
      have hp := hvalid hB.1
      have hk : bcmp (v.key p) t = .lt := by rw [← h.key_eq hp]; exact hB.2
      refine linear_spec ok (BRep_pre_next h hp) (fun i hi => ?_) _ (hfuel _)
      rcases Nat.lt_succ_iff_lt_or_eq.mp hi with hi | rfl
      · exact bcmp_lt_trans (key_lt_of_sorted ok.sorted hi hp) hk
      · exact hk

theorem blockSeek_spec {b v bi p t} (ok : BlockOK b v) (h : BRep b v bi p)
    (hsz : v.n ≤ b.data.length) : BRep b v (biSeek bi t) (lowerBound v.ents t) :=
  have _ := hsz
  blockSeek_spec' ok h

end Mtbl
