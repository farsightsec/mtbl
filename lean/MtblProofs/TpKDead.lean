import MtblProofs.TpKLive
/-
  The k-client pool machine: every worker thread the pool has created and not yet joined is in exactly one place
  (`Tot`), and — with the invariants of TpKLive — NO DEADLOCK (`no_deadlock`), so that `result_handler_destroy`,
  `threadpool_destroy` and the joins inside them are never waited for in vain.
-/
namespace TpK

/-! ### the pool's thread count is the number of places occupied, plus the threads being created -/
def plc (o : Bool) (cl : Client) : Nat := (clView o cl).length + (if cl.pc = .create then 1 else 0)
def T (s : St) : Nat := s.idle.length + (oHand s.opc).length + sumA s.cl (plc s.ordered) + sumA s.thr wN
def Tot (s : St) : Prop := s.count = T s

theorem T_mk (max njobs : Nat) (ordered : Bool) (cl : Array Client) (thr : Array Thr) (idle : List Nat) (count : Nat)
    (opc : OPc) :
    T { max, njobs, ordered, cl, thr, idle, count, opc } =
      idle.length + (oHand opc).length + sumA cl (plc ordered) + sumA thr wN := rfl

theorem T_setCl (s : St) (c : Nat) (f : Client → Client) (h : c < s.cl.size) :
    T (setCl s c f) + plc s.ordered s.cl[c]! = T s + plc s.ordered (f s.cl[c]!) := by
  have := sumA_modify s.cl c f (plc s.ordered) h
  simp only [T, setCl_ordered, setCl_idle, setCl_opc, setCl_thr, setCl_cl]
  omega

theorem T_setCl_same (s : St) (c : Nat) (f : Client → Client)
    (hf : plc s.ordered (f s.cl[c]!) = plc s.ordered s.cl[c]!) : T (setCl s c f) = T s := by
  by_cases h : c < s.cl.size
  · have := T_setCl s c f h; omega
  · simp only [T, setCl_ordered, setCl_idle, setCl_opc, setCl_thr, setCl_cl, sumA_modify_oob _ _ _ _ h]

theorem T_setThr (s : St) (t : Nat) (f : Thr → Thr) (h : t < s.thr.size) :
    T (setThr s t f) + wN s.thr[t]! = T s + wN (f s.thr[t]!) := by
  have := sumA_modify s.thr t f wN h
  simp only [T, setThr_ordered, setThr_idle, setThr_opc, setThr_cl, setThr_thr]
  omega

theorem T_setThr_same (s : St) (t : Nat) (f : Thr → Thr) (hf : wN (f s.thr[t]!) = wN s.thr[t]!) :
    T (setThr s t f) = T s := by
  by_cases h : t < s.thr.size
  · have := T_setThr s t f h; omega
  · simp only [T, setThr_ordered, setThr_idle, setThr_opc, setThr_cl, setThr_thr, sumA_modify_oob _ _ _ _ h]

theorem T_push (s : St) (c t : Nat) (hc : c < s.cl.size) :
    T (setCl s c fun cl => { cl with queue := cl.queue ++ [t] }) = T s + 1 := by
  have := T_setCl s c (fun cl => { cl with queue := cl.queue ++ [t] }) hc
  simp only [plc, clView, List.length_append, List.length_singleton] at this
  omega

theorem T_signalThr (s : St) (t : Nat) : T (signalThr s t) = T s := by
  rw [← T_setThr_same s t wakeW (wN_wake _)]
  show _ + _ + sumA (s.cl.map (wakeH t)) (plc s.ordered) + _ = _ + _ + sumA s.cl (plc s.ordered) + _
  rw [sumA_map_same _ _ _ (fun x => by simp [plc, clView_wakeH])]
  rfl

theorem T_signalRq (s : St) (c : Nat) : T (signalRq s c) = T s := by
  apply T_setCl_same
  split
  · rename_i h; simp [plc, clView, h]
  · rfl

theorem T_signalPool (s : St) (k : Nat) : T (signalPool s k) = T s := by
  rcases signalPool_cases s k with ⟨h, e⟩ | ⟨_, e⟩ | ⟨c, _, hp, e⟩ <;> rw [e]
  · simp [T, oHand, h]
  · exact T_setCl_same _ _ _ (by simp [plc, clView, cHand, hp])

theorem wN_top {th : Thr} (hp : isTop th.pc = true) : wN th = if th.rq.isSome then 1 else 0 := by
  cases hx : th.pc with
  | top a => simp [wN, hx]
  | _ => rw [hx] at hp; cases hp

theorem tot_init (n max njobs : Nat) (o : Bool) : Tot (init n max njobs o) := by
  show 0 = T _
  simp only [T, init]
  rw [sumA_replicate]
  · simp [sumA, oHand]
  · simp [plc, clView, cHand, hHand]

theorem tot_step {s s' : St} {l : Lbl} (hE : Excl s) (hS : Sh s) (hW : Wk s) (hC : CLAll s) (hF : WF2 s) (h : Tot s)
    (hs : step s l = some s') : Tot s' := by
  unfold Tot at h ⊢
  cases Step.of_step hs with
  | @spawn i _ ho =>
    -- the record that is replaced is that of a client not yet started: it holds nothing
    have hidle := hW.fresh i i ho (Nat.le_refl _)
    obtain ⟨hq, hh, _⟩ := (hC i).idleRec hidle
    show s.count = _
    rw [T_mk]
    have := T_setCl_same s i (fun _ => { pc := .start }) (by simp [plc, clView, hidle, hq, hh])
    simp only [T, setCl_ordered, setCl_idle, setCl_opc, setCl_thr, setCl_cl, ho] at this h ⊢
    simp at this h ⊢; omega
  | joinC ho | destroyDone ho | destroySleep ho | spOwner ho => show s.count = _; rw [T_mk, h]; simp [T, ho]
  | destroyTake ho _ hi => show s.count = _; rw [T_mk, h]; simp [T, ho, hi]
  | @kill _ t ho =>
    rw [signalThr_count, T_signalThr]
    show s.count = _
    rw [T_mk, h, ← T_setThr_same s t (fun th => { th with running := true }) (by simp [wN])]
    simp [T, ho]
  | joinW ho => show s.count - 1 = _; rw [T_mk, h]; simp [T, ho]; omega
  | start _ hp | mkH _ hp | nextDone _ hp | nextSleep _ hp | joinH _ hp | spClient _ hp =>
    rw [T_setCl_same _ _ _ (by simp [plc, clView, hp])]; exact h
  | deqExit _ _ hp | deqSleep _ _ hp | waitSleep _ _ hp | callback _ _ hp | spDeq _ hp | spWait _ hp =>
    rw [T_setCl_same _ _ _ (by simp [plc, clView, hp])]; exact h
  | enqueueUnord _ hp ho => rw [T_setCl_same _ _ _ (by simp [plc, clView, hp, ho])]; exact h
  | finish _ hp => rw [T_signalRq, T_setCl_same _ _ _ (by simp [plc, clView, hp])]; exact h
  | @nextTake c _ t rest hc hp _ hi =>
    have := T_setCl { s with idle := rest } c (fun cl => { cl with pc := .assign t }) hc
    have hX : T { s with idle := rest } + 1 = T s := by simp only [T, hi]; simp; omega
    simp only [plc, clView, hp] at this
    simp at this
    show s.count = _
    omega
  | @nextGrow c _ hc hp =>
    have := T_setCl { s with count := s.count + 1 } c (fun cl => { cl with pc := .create }) hc
    have hX : T { s with count := s.count + 1 } = T s := rfl
    simp only [plc, clView, hp] at this
    simp at this
    show s.count + 1 = _
    omega
  | @create c _ hc hp =>
    have h1 := T_setCl { s with thr := s.thr.push {} } c (fun cl => { cl with pc := .assign s.thr.size }) hc
    simp only [plc, clView, hp] at h1
    have hw : wN ({} : Thr) = 0 := rfl
    have hX : T { s with thr := s.thr.push {} } = T s := by simp only [T, sumA_push, hw]; simp
    simp at h1
    show s.count = _
    omega
  | @assign c _ t hc hp =>
    -- ordered: from the caller's hand (assign) to the caller's hand (enqueue); unordered: into the worker's own hands
    generalize hf : (fun th : Thr =>
      ({ th with rq := if s.ordered then none else some c, cb := some s.cl[c]!.nextJob, running := true } : Thr)) = f
    rw [signalThr_count, T_signalThr]
    have ht := hE.client_lt (mem_view_assign (o := s.ordered) hp)
    have hid : SIdle s.thr[t]! := ((hS t).cl c).assign hp
    have h1 := T_setCl (setThr s t f) c (fun cl => { cl with pc := .enqueue t }) (by simpa using hc)
    have h3 := T_setThr s t f ht
    simp only [plc, clView, setThr_ordered, setThr_cl, hp, cHand_assign, cHand_enqueue] at h1
    have h4 := hid.wN
    have h5 : wN (f s.thr[t]!) = (if s.ordered then 0 else 1) := by
      subst hf
      rw [wN_top (by exact hid.top)]
      cases s.ordered <;> rfl
    show s.count = _
    cases ho : s.ordered <;> simp [ho] at h1 h5 <;> omega
  | @enqueueOrd c _ t hc hp ho =>
    rw [T_signalRq, T_setCl_same _ _ _ (by simp [plc, clView, hp, ho]; omega)]; exact h
  | @selfEnq t _ c ht hp =>
    have hrq := (hS.selfEnq_rq hp).1
    generalize hg : (fun th : Thr => ({ th with pc := .top false } : Thr)) = g
    have h3 := T_setThr s t g ht
    have hw : wN s.thr[t]! = 1 := by simp [wN, hp, hrq]
    have hw' : wN (g s.thr[t]!) = 0 := by subst hg; simp [wN, hrq]
    rw [signalRq_count, T_signalRq, T_push _ _ _ (by simpa using (hF t c (Or.inr hp)).1)]
    show s.count = _
    omega
  | wGo _ hp | wSleep _ hp | wExit _ hp | spWorker _ hp => rw [T_setThr_same _ _ _ (by simp [wN, hp])]; exact h
  | wRunUnord _ hp _ hr | wRunOrd _ hp _ hr => rw [T_setThr_same _ _ _ (by simp [wN, hp, hr])]; exact h
  | doneOrd _ hp => rw [signalThr_count, T_signalThr, T_setThr_same _ _ _ (by simp [wN, hp])]; exact h
  | @deqTake c _ t rest hc _ hp hq =>
    have := T_setCl s c (fun cl => { cl with queue := rest, nthreads := cl.nthreads - 1, hpc := .waitRes t false }) hc
    simp only [plc, clView, hp, hq] at this
    simp at this
    show s.count = _
    omega
  | waitTake _ _ hp =>
    rw [T_setCl_same _ _ _ (by simp [plc, clView, hp]), T_setThr_same _ _ _ (by simp [wN])]; exact h
  | @giveBack c _ t r hc _ hp =>
    rw [T_signalPool]
    have := T_setCl { s with idle := t :: s.idle } c (fun cl => { cl with hpc := .callback r }) hc
    have hX : T { s with idle := t :: s.idle } = T s + 1 := by simp only [T]; simp; omega
    simp only [plc, clView, hp] at this
    simp at this
    rw [signalPool_count]
    show s.count = _
    omega

/-! ### a client that has closed leaves nothing behind -/
structure EXc (cl : Client) : Prop where
  fin : cl.finished = true → closing cl.pc = true
  exq : cl.hpc = .exited → cl.queue = [] ∧ cl.finished = true
  done : cl.pc = .done → cl.hpc = .exited

def EXAll (s : St) : Prop := ∀ c : Nat, EXc s.cl[c]!

/-- the phases give the flag and the exit; that the queue is empty after the exit is `Ph.exit` in ordered mode and
    `ExOk` in unordered mode -/
theorem exall_of {s : St} (hP : PhAll s) (hN : NOrd s) : EXAll s := fun c =>
  ⟨fun hx => by rcases (hP c).flag hx with e | e <;> rw [e] <;> rfl,
   fun hx => ⟨by
      cases ho : s.ordered
      · exact ((hN ho).ex c hx).1
      · exact ((hP c).exit hx).2 ho, ((hP c).exit hx).1⟩,
   (hP c).done⟩


/-- the invariants the liveness argument uses -/
structure Live (s : St) : Prop where
  excl : Excl s
  sh : Sh s
  wk : Wk s
  uord : UOrd s
  nord : NOrd s
  ph : PhAll s
  wf2 : WF2 s
  cl : CLAll s
  strict : Strict s
  phs : Phs s
  tot : Tot s
  ex : EXAll s

theorem live_reachable {n max njobs : Nat} {o : Bool} {s : St} (hn : 1 ≤ n) (hr : Reachable n max njobs o s) : Live s := by
  have base : Excl s ∧ Sh s ∧ Wk s ∧ UOrd s ∧ NOrd s ∧ PhAll s :=
    ⟨(inv_reachable hr).1, (inv_reachable hr).2, wk_reachable hr, uord_reachable hr, nord_reachable hr, ph_reachable hr⟩
  obtain ⟨b1, b2, b3, b4, b5, b6⟩ := base
  suffices h : WF2 s ∧ CLAll s ∧ Strict s ∧ Phs s ∧ Tot s from
    ⟨b1, b2, b3, b4, b5, b6, h.1, h.2.1, h.2.2.1, h.2.2.2.1, h.2.2.2.2, exall_of b6 b5⟩
  clear b1 b2 b3 b4 b5 b6
  induction hr with
  | init => exact ⟨wf2_init _ _ _ _, clall_init _ _ _ _, strict_init _ _ _ _, phs_init _ _ _ _ hn, tot_init _ _ _ _⟩
  | @step s1 s2 l hr' hs ih =>
    obtain ⟨a1, a2, a3, a4, a5⟩ := ih
    have hI := inv_reachable hr'
    have hW := wk_reachable hr'
    have hP := ph_reachable hr'
    exact ⟨wf2_step hW a1 hs, clall_step hI.2 hP a1 a2 hs, strict_step a3 hs, phs_step hW a4 hs,
      tot_step hI.1 hI.2 hW a2 a1 a5 hs⟩


/-! ### who can take a step -/
def enabled (s : St) (w : Who) : Prop := (step s (.run w 0)).isSome = true

theorem worker_enabled {s : St} {t : Nat} (ht : t < s.thr.size) (h1 : s.thr[t]!.pc ≠ .top true) (h2 : s.thr[t]!.pc ≠ .exited) :
    enabled s (.worker t) := by
  simp only [enabled, step, stepWorker, ht, if_true]
  cases hp : s.thr[t]!.pc with
  | top a => cases a
             · simp; split <;> simp
             · exact absurd hp h1
  | gotJob =>
    simp; split
    · simp
    · split <;> simp
  | selfEnq c => simp
  | doneOrd => simp
  | exited => exact absurd hp h2


theorem client_enabled {s : St} {c : Nat} (hc : c < s.cl.size) (h1 : s.cl[c]!.pc ≠ .idle) (h2 : s.cl[c]!.pc ≠ .next true)
    (h3 : s.cl[c]!.pc ≠ .done) (h4 : s.cl[c]!.pc = .joinH → s.cl[c]!.hpc = .exited) : enabled s (.client c) := by
  simp only [enabled, step, stepClient, hc, if_true]
  cases hp : s.cl[c]!.pc with
  | idle => exact absurd hp h1
  | start => simp
  | mkH => simp
  | next a =>
    cases a
    · simp; split
      · simp
      · split
        · simp
        · split <;> simp
    · exact absurd hp h2
  | create => simp
  | assign t => simp
  | enqueue t => simp
  | finish => simp
  | joinH => simp [h4 hp]
  | done => exact absurd hp h3

theorem handler_enabled {s : St} {c : Nat} (hc : c < s.cl.size) (h0 : s.cl[c]!.hstarted = true)
    (h1 : s.cl[c]!.hpc ≠ .deq true) (h2 : ∀ t, s.cl[c]!.hpc ≠ .waitRes t true) (h3 : s.cl[c]!.hpc ≠ .exited) :
    enabled s (.handler c) := by
  simp only [enabled, step, stepHandler, hc, if_true, h0]
  cases hp : s.cl[c]!.hpc with
  | deq a =>
    cases a
    · simp; split
      · simp
      · split <;> simp
    · exact absurd hp h1
  | waitRes t a =>
    cases a
    · simp; split <;> simp
    · exact absurd hp (h2 t)
  | giveBack t r => simp
  | callback r => simp
  | exited => exact absurd hp h3

theorem worker_of_running {s : St} (L : Live s) {t : Nat} (hr : s.thr[t]!.running = true) (hne : s.thr[t]!.pc ≠ .exited) :
    enabled s (.worker t) := by
  have ht : t < s.thr.size := lt_of_get_ne fun e => by rw [e] at hr; cases hr
  refine worker_enabled ht (fun hx => ?_) hne
  have := L.strict t hx
  rw [hr] at this; cases this

theorem self_progress {s : St} (L : Live s) {t : Nat} (hw : 0 < wN s.thr[t]!) : enabled s (.worker t) := by
  rcases ((L.sh t).self hw).2 with hx | hx
  · refine worker_of_running L hx.2.1 (fun he => ?_)
    rcases hx.1 with h1 | h1 <;> simp [he, isTop] at h1
  · obtain ⟨c, hc⟩ := hx.1
    have ht : t < s.thr.size := lt_of_get_ne fun e => by rw [e] at hc; cases hc
    exact worker_enabled ht (by simp [hc]) (by simp [hc])

theorem handler_progress {s : St} (L : Live s) {c : Nat} (hc : c < s.cl.size) (h0 : s.cl[c]!.hstarted = true)
    (h1 : s.cl[c]!.hpc ≠ .deq true) (h3 : s.cl[c]!.hpc ≠ .exited) : ∃ w, enabled s w := by
  by_cases h2 : ∀ t, s.cl[c]!.hpc ≠ .waitRes t true
  · exact ⟨_, handler_enabled hc h0 h1 h2 h3⟩
  · have ⟨t, ht⟩ : ∃ t, s.cl[c]!.hpc = .waitRes t true := by
      apply Classical.byContradiction; intro hn
      exact h2 fun t hx => hn ⟨t, hx⟩
    obtain ⟨hq, hr⟩ := ((L.sh t).cl c).wait true ht
    have hrun := hr rfl
    refine ⟨.worker t, worker_of_running L hrun (fun he => ?_)⟩
    unfold SQ at hq
    split at hq
    · rcases hq.2 with hx | hx | hx
      · rcases hx.1 with h1 | h1 <;> simp [he, isTop] at h1
      · simp [he] at hx
      · simp [he, isTop] at hx
    · simp [SFin, he, isTop] at hq


theorem wN_of_works {th : Thr} {c : Nat} (h : th.rq = some c ∨ th.pc = .selfEnq c) : 0 < wN th := by
  rcases h with h | h
  · simp only [wN, h, Option.isSome_some, if_true]; omega
  · simp [wN, h]

theorem works_of_wN {th : Thr} (h : wN th ≠ 0) : ∃ c, th.rq = some c ∨ th.pc = .selfEnq c := by
  cases hr : th.rq with
  | some c => exact ⟨c, Or.inl rfl⟩
  | none =>
    cases hp : th.pc with
    | selfEnq c => exact ⟨c, Or.inr rfl⟩
    | _ => simp [wN, hr, hp] at h

/-- a started caller that has not finished and is not asleep in threadpool_next can go on — or its handler can, or a worker
    carrying one of its results can -/
theorem client_progress {s : St} (L : Live s) {c : Nat} (hc : c < s.cl.size) (h1 : s.cl[c]!.pc ≠ .idle)
    (h2 : s.cl[c]!.pc ≠ .next true) (h3 : s.cl[c]!.pc ≠ .done) : ∃ w, enabled s w := by
  by_cases hj : s.cl[c]!.pc = .joinH → s.cl[c]!.hpc = .exited
  · exact ⟨_, client_enabled hc h1 h2 h3 hj⟩
  · have hp : s.cl[c]!.pc = .joinH := Classical.byContradiction fun hn => hj fun hx => absurd hx hn
    have he : s.cl[c]!.hpc ≠ .exited := fun hx => hj fun _ => hx
    have hC := L.cl c
    have hst := hC.hstart (by simp [hp, preH])
    by_cases hd : s.cl[c]!.hpc = .deq true
    · obtain ⟨hq, hnf⟩ := hC.deqSleep hd
      have hfin := hC.finFlag (by simp [hp, closing])
      have hnz : s.cl[c]!.nthreads ≠ 0 := fun hx => hnf ⟨hfin, hx⟩
      cases ho : s.ordered with
      | true =>
        have := hC.ordN ho
        rw [hq] at this; exact absurd this hnz
      | false =>
        have hn := (L.nord ho).n c
        unfold NOk at hn
        rw [hp, hq] at hn
        have hsum : sumA s.thr (wAny c) ≠ 0 := by
          intro hx; rw [hx] at hn; simp [pend] at hn; exact hnz hn
        obtain ⟨t, ht⟩ := exists_of_sumA_pos _ _ (Nat.pos_of_ne_zero hsum)
        simp only [wAny] at ht
        split at ht
        · rename_i hx; exact ⟨_, self_progress L (wN_of_works hx)⟩
        · cases ht
    · exact handler_progress L hc hst hd he

theorem places_progress {s : St} (L : Live s) (ho : ∃ i, s.opc = .joinC i) (hi : s.idle = []) (hT : 0 < T s) :
    ∃ w, enabled s w := by
  obtain ⟨i, ho⟩ := ho
  simp only [T, hi, ho, oHand_joinC, List.length_nil] at hT
  by_cases hw : sumA s.thr wN = 0
  · obtain ⟨c, hc⟩ := exists_of_sumA_pos s.cl (plc s.ordered) (by omega)
    have hcs : c < s.cl.size := lt_of_get_ne fun e => by rw [e] at hc; cases hc
    have hC := L.cl c
    have hE := L.ex c
    by_cases h1 : s.cl[c]!.pc = .idle
    · obtain ⟨a, b, _⟩ := hC.idleRec h1
      simp [plc, clView, h1, a, b] at hc
    by_cases h3 : s.cl[c]!.pc = .done
    · have b := hE.done h3
      have a := (hE.exq b).1
      simp [plc, clView, h3, a, b] at hc
    by_cases h2 : s.cl[c]!.pc = .next true
    · have hst := hC.hstart (by simp [h2, preH])
      have he : s.cl[c]!.hpc ≠ .exited := by
        intro hx
        have := hE.fin (hE.exq hx).2
        simp [h2, closing] at this
      by_cases hd : s.cl[c]!.hpc = .deq true
      · have a := (hC.deqSleep hd).1
        simp [plc, clView, h2, a, hd] at hc
      · exact handler_progress L hcs hst hd he
    exact client_progress L hcs h1 h2 h3
  · obtain ⟨t, ht⟩ := exists_of_sumA_pos _ _ (Nat.pos_of_ne_zero hw)
    exact ⟨_, self_progress L ht⟩

/-- NO DEADLOCK: in every reachable state in which the pool owner has not finished, some thread can take a step -/
theorem no_deadlock {n max njobs : Nat} {o : Bool} {s : St} (hr : Reachable n max njobs o s) (hn : 1 ≤ n) (hm : 1 ≤ max)
    (hd : s.opc ≠ .done) : ∃ w, (step s (.run w 0)).isSome = true := by
  have L := live_reachable hn hr
  have hpar := params_reachable hr
  show ∃ w, enabled s w
  cases ho : s.opc with
  | spawn i => exact ⟨.owner, by simp [enabled, step, stepOwner, ho]⟩
  | kill t => exact ⟨.owner, by simp [enabled, step, stepOwner, ho]⟩
  | done => exact absurd ho hd
  | destroy a =>
    cases a with
    | false =>
      refine ⟨.owner, ?_⟩
      simp only [enabled, step, stepOwner, ho]
      split
      · simp
      · split <;> simp
    | true =>
      exfalso
      obtain ⟨hi, hc⟩ := L.phs.destroySleep ho
      have hover := L.wk.over (by rw [ho]; rfl)
      have h1 : sumA s.cl (plc s.ordered) = 0 := by
        apply sumA_zero; intro c
        rcases hover c with hx | hx
        · have b := (L.ex c).done hx
          have a := ((L.ex c).exq b).1
          simp [plc, clView, hx, a, b]
        · obtain ⟨a, b, _⟩ := (L.cl c).idleRec hx
          simp [plc, clView, hx, a, b]
      have h2 : sumA s.thr wN = 0 := by
        apply sumA_zero; intro t
        apply Classical.byContradiction; intro hw
        obtain ⟨c, hx⟩ := works_of_wN hw
        have hun := ((L.sh t).self (by omega)).1
        obtain ⟨hcs, hpre⟩ := L.wf2 t c hx
        have ht : t < s.thr.size := lt_of_get_ne fun e => by rw [e] at hw; exact hw rfl
        rcases hover c with hp | hp
        · have b := (L.ex c).done hp
          have h0 := ((L.nord hun).ex c b).2
          have := sumA_eq_zero_term s.thr (wAny c) h0 t ht
          simp only [wAny] at this
          rw [if_pos hx] at this; cases this
        · simp [hp, preH] at hpre
      have := L.tot
      simp only [Tot, T, hi, ho, h1, h2, oHand_destroy, List.length_nil] at this
      exact hc this
  | joinW t =>
    by_cases he : s.thr[t]!.pc = .exited
    · exact ⟨.owner, by simp [enabled, step, stepOwner, ho, he]⟩
    · have hk := (L.sh t).joinW (by rw [ho])
      exact ⟨_, worker_of_running L hk.2.1 he⟩
  | joinC i =>
    have hi := L.phs.joinLt i ho
    by_cases hdone : s.cl[i]!.pc = .done
    · refine ⟨.owner, ?_⟩
      have : s.cl[i]? = some s.cl[i]! := by grind
      simp [enabled, step, stepOwner, ho, this, hdone]
    · have hstarted := L.phs.started (Or.inr ⟨i, ho⟩) i hi
      by_cases hsl : s.cl[i]!.pc = .next true
      · have hcm := L.phs.nextSleep i hsl
        by_cases hidle : s.idle = []
        · have ht := L.tot
          unfold Tot at ht
          exact places_progress L ⟨i, ho⟩ hidle (by rw [← ht, hcm, hpar.1]; omega)
        · obtain ⟨c, hp, _⟩ := (no_lost_wakeup hr ⟨i, hsl⟩).2 hidle
          have hcs : c < s.cl.size := lt_of_get_ne fun e => by rw [e] at hp; cases hp
          exact ⟨_, client_enabled hcs (by simp [hp]) (by simp [hp]) (by simp [hp]) (by simp [hp])⟩
      · exact client_progress L hi hstarted hsl hdone

end TpK
