import MtblProofs.TpKProofs
/-
  The k-client pool machine: what a worker thread's record looks like in each place (the per-thread hand-over protocol), for
  any number of clients.  Together with exclusive hand-out (`Excl`) this is the invariant the race analysis of the k-client
  machine rests on (MtblProofs/TpKNoRace.lean).  `Sh s`: every record is `Good`, i.e. has the shape (`SIdle`, `SOrd`, `SFin`,
  `SWork`, `SKill`) its place asks for; `Keeps th th'`: `th'` has every shape `th` has.
-/
namespace TpK

def isTop : WPc → Bool | .top _ => true | _ => false

def SIdle (th : Thr) : Prop :=
  isTop th.pc = true ∧ th.running = false ∧ th.cb = none ∧ th.res = none ∧ th.rq = none
/-- ordered dispatch (in the caller's hand at `enqueue`, in a queue or in a handler's hand) -/
def SOrd (th : Thr) : Prop :=
  th.rq = none ∧
  (((isTop th.pc = true ∨ th.pc = .gotJob) ∧ th.running = true ∧ th.cb ≠ none ∧ th.res = none) ∨
   (th.pc = .doneOrd ∧ th.running = true ∧ th.cb = none ∧ th.res ≠ none) ∨
   (isTop th.pc = true ∧ th.running = false ∧ th.cb = none ∧ th.res ≠ none))
/-- result ready -/
def SFin (th : Thr) : Prop :=
  isTop th.pc = true ∧ th.running = false ∧ th.cb = none ∧ th.res ≠ none ∧ th.rq = none
/-- unordered dispatch, not yet queued -/
def SWork (th : Thr) : Prop :=
  ((isTop th.pc = true ∨ th.pc = .gotJob) ∧ th.running = true ∧ th.cb ≠ none ∧ th.res = none ∧ th.rq ≠ none) ∨
  ((∃ c, th.pc = .selfEnq c) ∧ th.running = false ∧ th.cb = none ∧ th.res ≠ none ∧ th.rq = none)
/-- told to exit -/
def SKill (th : Thr) : Prop :=
  (isTop th.pc = true ∨ th.pc = .gotJob ∨ th.pc = .exited) ∧ th.running = true ∧ th.cb = none ∧ th.res = none ∧ th.rq = none
def SQ (ordered : Bool) (th : Thr) : Prop := if ordered then SOrd th else SFin th

/-- what client `cl` requires of thread t's record `th` -/
structure ClGood (o : Bool) (cl : Client) (t : Nat) (th : Thr) : Prop where
  assign : cl.pc = .assign t → SIdle th
  enq : cl.pc = .enqueue t → o = true → SOrd th
  queue : t ∈ cl.queue → SQ o th
  wait : ∀ a, cl.hpc = .waitRes t a → SQ o th ∧ (a = true → th.running = true)
  give : ∀ r, cl.hpc = .giveBack t r → SIdle th

/-- what the whole state requires of thread t's record `th` -/
structure Good (o : Bool) (idl : List Nat) (opc : OPc) (cls : Array Client) (t : Nat) (th : Thr) : Prop where
  idle : t ∈ idl → SIdle th
  cl : ∀ c : Nat, ClGood o cls[c]! t th
  kill : opc = .kill t → SIdle th
  joinW : opc = .joinW t → SKill th
  self : 0 < wN th → o = false ∧ SWork th

def Sh (s : St) : Prop := ∀ t, Good s.ordered s.idle s.opc s.cl t s.thr[t]!

theorem SIdle.top {th : Thr} (h : SIdle th) : isTop th.pc = true := h.1
theorem SIdle.running {th : Thr} (h : SIdle th) : th.running = false := h.2.1
theorem SIdle.cb {th : Thr} (h : SIdle th) : th.cb = none := h.2.2.1
theorem SIdle.res {th : Thr} (h : SIdle th) : th.res = none := h.2.2.2.1
theorem SIdle.rq {th : Thr} (h : SIdle th) : th.rq = none := h.2.2.2.2
theorem SFin.rq {th : Thr} (h : SFin th) : th.rq = none := h.2.2.2.2

theorem SIdle_default : SIdle (default : Thr) := ⟨rfl, rfl, rfl, rfl, rfl⟩

theorem ClGood_new (o : Bool) (t : Nat) (th : Thr) : ClGood o ({} : Client) t th :=
  ⟨by simp, by simp, by simp, by simp, by simp⟩

/-- `th'` has every shape `th` has, and holds itself only if `th` did -/
structure Keeps (th th' : Thr) : Prop where
  idle : SIdle th → SIdle th'
  ord : SOrd th → SOrd th'
  fin : SFin th → SFin th'
  work : SWork th → SWork th'
  kill : SKill th → SKill th'
  self : 0 < wN th' → 0 < wN th

theorem Keeps.refl (th : Thr) : Keeps th th := ⟨id, id, id, id, id, id⟩

theorem Keeps.trans {a b c : Thr} (h1 : Keeps a b) (h2 : Keeps b c) : Keeps a c :=
  ⟨h2.idle ∘ h1.idle, h2.ord ∘ h1.ord, h2.fin ∘ h1.fin, h2.work ∘ h1.work, h2.kill ∘ h1.kill, h1.self ∘ h2.self⟩

theorem Keeps.sq {th th' : Thr} (k : Keeps th th') {o : Bool} : SQ o th → SQ o th' := by
  unfold SQ; split
  · exact k.ord
  · exact k.fin

theorem keeps_unsleep {th : Thr} (hp : th.pc = .top true) : Keeps th { th with pc := .top false } := by
  constructor <;> simp_all [SIdle, SOrd, SFin, SWork, SKill, isTop, wN]
theorem keeps_sleep {th : Thr} (hp : th.pc = .top false) : Keeps th { th with pc := .top true } := by
  constructor <;> simp_all [SIdle, SOrd, SFin, SWork, SKill, isTop, wN]
theorem keeps_go {th : Thr} (hp : th.pc = .top false) (hr : th.running = true) : Keeps th { th with pc := .gotJob } := by
  constructor <;> simp_all [SIdle, SOrd, SFin, SWork, SKill, isTop, wN]
theorem keeps_exit {th : Thr} (hp : th.pc = .gotJob) (hcb : th.cb = none) : Keeps th { th with pc := .exited } := by
  constructor <;> simp_all [SIdle, SOrd, SFin, SWork, SKill, isTop, wN]
theorem keeps_runOrd {th : Thr} {j : Nat} (hp : th.pc = .gotJob) (hcb : th.cb = some j) (hrq : th.rq = none) :
    Keeps th { th with res := some j, cb := none, pc := .doneOrd } := by
  constructor <;> simp_all [SIdle, SOrd, SFin, SWork, SKill, isTop, wN]
/-- the result is ready: the second form of `SOrd` becomes the third -/
theorem keeps_doneOrd {th : Thr} (hp : th.pc = .doneOrd) : Keeps th { th with running := false, pc := .top false } := by
  constructor <;> simp_all [SIdle, SOrd, SFin, SWork, SKill, isTop, wN]

theorem Keeps.wake (th : Thr) : Keeps th (wakeW th) := by
  rcases wakeW_cases th with e | ⟨hp, e⟩ <;> rw [e]
  · exact .refl th
  · exact keeps_unsleep hp

theorem Good.mono {o : Bool} {idle : List Nat} {opc : OPc} {cl : Array Client} {t : Nat} {th th' : Thr}
    (h : Good o idle opc cl t th) (k : Keeps th th') (hr : th.running = true → th'.running = true) :
    Good o idle opc cl t th' :=
  ⟨fun m => k.idle (h.idle m),
    fun c => ⟨fun e => k.idle ((h.cl c).assign e), fun e e2 => k.ord ((h.cl c).enq e e2), fun m => k.sq ((h.cl c).queue m),
      fun a e => ⟨k.sq ((h.cl c).wait a e).1, fun ha => hr (((h.cl c).wait a e).2 ha)⟩, fun r e => k.idle ((h.cl c).give r e)⟩,
    fun e => k.idle (h.kill e), fun e => k.kill (h.joinW e), fun p => ⟨(h.self (k.self p)).1, k.work (h.self (k.self p)).2⟩⟩

theorem ClGood.of_pc {o : Bool} {cl cl' : Client} {t : Nat} {th : Thr} (h : ClGood o cl t th) (hq : cl'.queue = cl.queue)
    (hh : cl'.hpc = cl.hpc) (hp : t ∉ cHand cl'.pc o) : ClGood o cl' t th :=
  ⟨fun e => absurd (by rw [e]; simp) hp, fun e ho => absurd (by rw [e, ho]; simp) hp, hq ▸ h.queue, hh ▸ h.wait, hh ▸ h.give⟩

theorem ClGood.of_hpc {o : Bool} {cl cl' : Client} {t : Nat} {th : Thr} (h : ClGood o cl t th) (hq : cl'.queue = cl.queue)
    (hp : cl'.pc = cl.pc) (hh : t ∉ hHand cl'.hpc) : ClGood o cl' t th :=
  ⟨hp ▸ h.assign, hp ▸ h.enq, hq ▸ h.queue, fun _ e => absurd (by rw [e]; simp) hh, fun _ e => absurd (by rw [e]; simp) hh⟩

/-- after the wake-up nobody sleeps waiting for `t`, so nothing is asked of its `running` flag -/
theorem ClGood.wakeH_self {o : Bool} {cl : Client} {t : Nat} {th th' : Thr} (h : ClGood o cl t th) (k : Keeps th th') :
    ClGood o (TpK.wakeH t cl) t th' := by
  rcases wakeH_cases t cl with ⟨hn, e⟩ | ⟨hh, e⟩ <;> rw [e]
  · refine ⟨k.idle ∘ h.assign, fun e1 e2 => k.ord (h.enq e1 e2), k.sq ∘ h.queue, fun a e1 => ⟨k.sq (h.wait a e1).1, ?_⟩,
      fun r e1 => k.idle (h.give r e1)⟩
    rintro rfl; exact absurd e1 hn
  · exact ⟨k.idle ∘ h.assign, fun e1 e2 => k.ord (h.enq e1 e2), k.sq ∘ h.queue,
      fun a e1 => ⟨k.sq (h.wait true hh).1, by rintro rfl; cases e1⟩, fun r e1 => by cases e1⟩

theorem ClGood.wakeH {o : Bool} {cl : Client} {u : Nat} {th : Thr} (t : Nat) (h : ClGood o cl u th) :
    ClGood o (TpK.wakeH t cl) u th := by
  rcases wakeH_cases t cl with ⟨_, e⟩ | ⟨hh, e⟩ <;> rw [e]
  · exact h
  · refine ⟨h.assign, h.enq, h.queue, fun a e1 => ?_, fun r e1 => by cases e1⟩
    injection e1 with e1 e2
    subst e1 e2
    exact ⟨(h.wait true hh).1, by simp⟩

theorem sh_setCl {s : St} (c : Nat) (f : Client → Client) (h : Sh s)
    (hf : ∀ u, ClGood s.ordered (f s.cl[c]!) u s.thr[u]!) : Sh (setCl s c f) :=
  fun u => ⟨(h u).idle, forall_get_modify (ClGood s.ordered · u s.thr[u]!) c f (h u).cl (hf u), (h u).kill, (h u).joinW, (h u).self⟩

theorem sh_setOpc {s : St} (o' : OPc) (h : Sh s) (hk : ∀ t, o' = .kill t → SIdle s.thr[t]!)
    (hj : ∀ t, o' = .joinW t → SKill s.thr[t]!) : Sh { s with opc := o' } :=
  fun u => ⟨(h u).idle, (h u).cl, hk u, hj u, (h u).self⟩

theorem sh_setOpc_free {s : St} (o' : OPc) (ho : oHand o' = []) (h : Sh s) : Sh { s with opc := o' } :=
  sh_setOpc o' h (fun t e => by rw [e] at ho; cases ho) (fun t e => by rw [e] at ho; cases ho)

theorem sh_setIdle {s : St} (i' : List Nat) (h : Sh s) (hi : ∀ t ∈ i', SIdle s.thr[t]!) : Sh { s with idle := i' } :=
  fun u => ⟨hi u, (h u).cl, (h u).kill, (h u).joinW, (h u).self⟩

theorem sh_signalRq {s : St} (c : Nat) (h : Sh s) : Sh (signalRq s c) := by
  rw [signalRq_eq]
  refine sh_setCl _ _ h fun u => ?_
  rcases wakeDeq_cases s.cl[c]! with e | ⟨_, e⟩ <;> rw [e]
  · exact (h u).cl c
  · exact ((h u).cl c).of_hpc rfl rfl (by simp)

theorem sh_signalPool {s : St} (k : Nat) (h : Sh s) : Sh (signalPool s k) := by
  rcases signalPool_cases s k with ⟨_, e⟩ | ⟨_, e⟩ | ⟨c, _, _, e⟩ <;> rw [e]
  · exact sh_setOpc_free _ rfl h
  · exact h
  · exact sh_setCl _ _ h fun u => ((h u).cl c).of_pc rfl rfl (by simp)

theorem sh_setThr_signal {s : St} (t : Nat) (g : Thr → Thr) (h : Sh s) (k : Keeps s.thr[t]! (g s.thr[t]!)) :
    Sh (signalThr (setThr s t g) t) := by
  intro u
  have hu := h u
  rw [signalThr_eq]
  show Good s.ordered s.idle s.opc (s.cl.map (TpK.wakeH t)) u (setThr (setThr s t g) t wakeW).thr[u]!
  rw [thr_setThr, thr_setThr]
  simp only [setThr_thr, Array.size_modify]
  split
  · rename_i hc
    rw [hc.1] at hu ⊢
    have k' := k.trans (.wake _)
    exact ⟨k'.idle ∘ hu.idle, forall_get_map (ClGood s.ordered · t _) _ (ClGood_new _ _ _) fun c => (hu.cl c).wakeH_self k',
      k'.idle ∘ hu.kill, k'.kill ∘ hu.joinW, fun p => ⟨(hu.self (k'.self p)).1, k'.work (hu.self (k'.self p)).2⟩⟩
  · exact ⟨hu.idle, forall_get_map (ClGood s.ordered · u _) _ (ClGood_new _ _ _) fun c => (hu.cl c).wakeH t, hu.kill, hu.joinW, hu.self⟩

theorem sh_setThr {s : St} (t : Nat) (g : Thr → Thr) (h : Sh s)
    (hg : Good s.ordered s.idle s.opc s.cl t (g s.thr[t]!)) : Sh (setThr s t g) := by
  intro u
  show Good s.ordered s.idle s.opc s.cl u (setThr s t g).thr[u]!
  rw [thr_setThr]
  split
  · rename_i hc; rw [hc.1]; exact hg
  · exact h u

theorem sh_setThr_keeps {s : St} (t : Nat) (g : Thr → Thr) (h : Sh s) (k : Keeps s.thr[t]! (g s.thr[t]!))
    (hr : s.thr[t]!.running = true → (g s.thr[t]!).running = true) : Sh (setThr s t g) :=
  sh_setThr t g h ((h t).mono k hr)

theorem sh_signalThr {s : St} (t : Nat) (h : Sh s) : Sh (signalThr s t) := by
  intro u
  have hu := h u
  rw [signalThr_eq]
  show Good s.ordered s.idle s.opc (s.cl.map (TpK.wakeH t)) u (setThr s t wakeW).thr[u]!
  rw [thr_setThr]
  split
  · rename_i hc; rw [hc.1] at hu ⊢
    exact ⟨(Keeps.wake _).idle ∘ hu.idle, forall_get_map (ClGood s.ordered · t _) _ (ClGood_new _ _ _) fun c => (hu.cl c).wakeH_self (.wake _),
      (Keeps.wake _).idle ∘ hu.kill, (Keeps.wake _).kill ∘ hu.joinW,
      fun p => ⟨(hu.self ((Keeps.wake _).self p)).1, (Keeps.wake _).work (hu.self ((Keeps.wake _).self p)).2⟩⟩
  · exact ⟨hu.idle, forall_get_map (ClGood s.ordered · u _) _ (ClGood_new _ _ _) fun c => (hu.cl c).wakeH t, hu.kill, hu.joinW, hu.self⟩


theorem mem_view_assign {o : Bool} {cl : Client} {t : Nat} (h : cl.pc = .assign t) : t ∈ clView o cl := by
  simp [clView, h]
theorem mem_view_enq {o : Bool} {cl : Client} {t : Nat} (h : cl.pc = .enqueue t) (ho : o = true) : t ∈ clView o cl := by
  simp [clView, h, ho]
theorem mem_view_queue {o : Bool} {cl : Client} {t : Nat} (h : t ∈ cl.queue) : t ∈ clView o cl := by
  simp [clView, h]
theorem mem_view_wait {o : Bool} {cl : Client} {t : Nat} {a : Bool} (h : cl.hpc = .waitRes t a) : t ∈ clView o cl := by
  simp [clView, h]
theorem mem_view_give {o : Bool} {cl : Client} {t : Nat} {r : Option Nat} (h : cl.hpc = .giveBack t r) :
    t ∈ clView o cl := by
  simp [clView, h]

theorem ClGood.of_not_mem {o : Bool} {cl : Client} {t : Nat} {th : Thr} (h : t ∉ clView o cl) : ClGood o cl t th :=
  ⟨fun e => absurd (mem_view_assign e) h, fun e ho => absurd (mem_view_enq e ho) h, fun m => absurd (mem_view_queue m) h,
   fun _ e => absurd (mem_view_wait e) h, fun _ e => absurd (mem_view_give e) h⟩

theorem Good.of_client {o : Bool} {idl : List Nat} {opc : OPc} {cls : Array Client} {t : Nat} {th : Thr} (c0 : Nat)
    (hi : t ∉ idl) (ho : t ∉ oHand opc) (hw : wN th = 0) (hc : ∀ c : Nat, c ≠ c0 → t ∉ clView o cls[c]!)
    (hg : ClGood o cls[c0]! t th) : Good o idl opc cls t th :=
  ⟨fun m => absurd m hi, fun c => if e : c = c0 then e ▸ hg else ClGood.of_not_mem (hc c e),
   fun e => absurd (by simp [e]) ho, fun e => absurd (by simp [e]) ho, fun p => by omega⟩

theorem Good.of_self {o : Bool} {idl : List Nat} {opc : OPc} {cls : Array Client} {t : Nat} {th : Thr}
    (hi : t ∉ idl) (ho : t ∉ oHand opc) (hc : ∀ c : Nat, t ∉ clView o cls[c]!) (hs : o = false ∧ SWork th) :
    Good o idl opc cls t th :=
  ⟨fun m => absurd m hi, fun c => ClGood.of_not_mem (hc c),
   fun e => absurd (by simp [e]) ho, fun e => absurd (by simp [e]) ho, fun _ => hs⟩

theorem Good.of_owner {o : Bool} {idl : List Nat} {opc : OPc} {cls : Array Client} {t : Nat} {th : Thr}
    (hi : t ∉ idl) (hw : wN th = 0) (hc : ∀ c : Nat, t ∉ clView o cls[c]!)
    (hk : opc = .kill t → SIdle th) (hj : opc = .joinW t → SKill th) : Good o idl opc cls t th :=
  ⟨fun m => absurd m hi, fun c => ClGood.of_not_mem (hc c), hk, hj, fun p => by omega⟩

theorem SIdle.wN {th : Thr} (h : SIdle th) : wN th = 0 := by
  have := h.1
  simp only [TpK.wN, h.rq]
  revert this; cases th.pc <;> simp [isTop]

theorem count_view_assign {o : Bool} {cl : Client} {t : Nat} (hp : cl.pc = .assign t) (h1 : (clView o cl).count t = 1) :
    t ∉ cl.queue ∧ t ∉ hHand cl.hpc := by
  simp only [clView, hp, cHand_assign, List.count_append, List.count_cons, List.count_nil] at h1
  simp at h1
  exact ⟨List.count_eq_zero.mp (by omega), List.count_eq_zero.mp (by omega)⟩

theorem not_wait_of_not_hHand {cl : Client} {t : Nat} (h : t ∉ hHand cl.hpc) :
    (∀ a, cl.hpc ≠ .waitRes t a) ∧ (∀ r, cl.hpc ≠ .giveBack t r) :=
  ⟨fun a e => h (by simp [e]), fun r e => h (by simp [e])⟩

theorem count_view_hHand {o : Bool} {cl : Client} {t : Nat} (hh : hHand cl.hpc = [t]) (h1 : (clView o cl).count t = 1) :
    t ∉ cHand cl.pc o ∧ t ∉ cl.queue := by
  simp only [clView, hh, List.count_append, List.count_cons, List.count_nil] at h1
  simp at h1
  exact ⟨List.count_eq_zero.mp (by omega), List.count_eq_zero.mp (by omega)⟩

theorem Good.of_client_modify {o : Bool} {idl : List Nat} {opc : OPc} {cls : Array Client} {t : Nat} {th : Thr} (c : Nat)
    (f : Client → Client) (hc : c < cls.size ∨ t ∉ clView o cls[c]!) (hi : t ∉ idl) (ho : t ∉ oHand opc) (hw : wN th = 0)
    (hc' : ∀ c' : Nat, c' ≠ c → t ∉ clView o cls[c']!) (hg : ClGood o (f cls[c]!) t th) :
    Good o idl opc (cls.modify c f) t th := by
  refine Good.of_client c hi ho hw (fun c' hne => ?_) ?_
  · rw [get_modify, if_neg (fun hx => hne hx.1)]; exact hc' c' hne
  · rw [get_modify]; split
    · exact hg
    · rename_i hx; exact .of_not_mem (hc.resolve_left fun x => hx ⟨rfl, x⟩)

theorem sh_setThr_setCl {s : St} (t c : Nat) (g : Thr → Thr) (f : Client → Client) (h : Sh s) (ht : t < s.thr.size)
    (hu : ∀ u, u ≠ t → ClGood s.ordered (f s.cl[c]!) u s.thr[u]!)
    (hg : Good s.ordered s.idle s.opc (s.cl.modify c f) t (g s.thr[t]!)) : Sh (setCl (setThr s t g) c f) := by
  intro u
  show Good s.ordered s.idle s.opc (s.cl.modify c f) u (setThr s t g).thr[u]!
  rw [thr_setThr]
  split
  · rename_i hut; rw [hut.1]; exact hg
  · rename_i hut
    exact ⟨(h u).idle, forall_get_modify (ClGood s.ordered · u _) c f (h u).cl (hu u fun e => hut ⟨e, ht⟩), (h u).kill,
      (h u).joinW, (h u).self⟩

theorem sh_step {s s' : St} {l : Lbl} (hE : Excl s) (h : Sh s) (hs : step s l = some s') : Sh s' := by
  cases Step.of_step hs with
  | spawn => exact sh_setOpc_free _ (by simp) (sh_setCl _ _ h fun u => .of_not_mem (by simp [clView]))
  | joinC | destroyDone | destroySleep | spOwner => exact sh_setOpc_free _ (by simp) h
  | joinW => exact sh_setOpc_free (s := { s with count := s.count - 1 }) _ (by simp) h
  | @destroyTake _ t rest _ _ hi =>
    refine sh_setOpc (s := { s with idle := rest }) _
      (sh_setIdle rest h fun u m => (h u).idle (hi ▸ List.mem_cons_of_mem _ m)) (fun u e => ?_) (fun u e => nomatch e)
    injection e with e; subst e
    exact (h t).idle (by rw [hi]; simp)
  | @kill _ t ho =>
    apply sh_signalThr
    obtain ⟨o1, _, o3, o4⟩ := hE.owner (t := t) (by simp [ho])
    intro u
    have hu := h u
    show Good s.ordered s.idle (.joinW t) s.cl u (setThr s t _).thr[u]!
    rw [thr_setThr]
    split
    · rename_i hc
      rw [hc.1] at hu ⊢
      have hid := hu.kill ho
      exact Good.of_owner o1 hid.wN o3 (by simp) fun _ => ⟨Or.inl hid.top, rfl, hid.cb, hid.res, hid.rq⟩
    · rename_i hc
      refine ⟨hu.idle, hu.cl, by simp, fun e => ?_, hu.self⟩
      injection e with e
      exact absurd ⟨e.symm, o4⟩ hc
  | start | mkH | nextDone | nextSleep | joinH | spClient | enqueueUnord =>
    exact sh_setCl _ _ h fun u => ((h u).cl _).of_pc rfl rfl (by simp)
  | nextGrow => exact sh_setCl (s := { s with count := s.count + 1 }) _ _ h fun u => ((h u).cl _).of_pc rfl rfl (by simp)
  | finish => exact sh_signalRq _ (sh_setCl _ _ h fun u => ((h u).cl _).of_pc rfl rfl (by simp))
  | @nextTake c _ t rest _ _ _ hi =>
    refine sh_setCl (s := { s with idle := rest }) _ _
      (sh_setIdle rest h fun u m => (h u).idle (hi ▸ List.mem_cons_of_mem _ m)) fun u => ?_
    refine ⟨fun e => ?_, by simp, ((h u).cl c).queue, ((h u).cl c).wait, ((h u).cl c).give⟩
    injection e with e; subst e
    exact (h t).idle (by rw [hi]; simp)
  | @create c _ hc hp =>
    -- the new thread is nowhere yet, and no existing thread has its number
    intro u
    have hu := h u
    simp only [setCl_ordered, setCl_idle, setCl_opc, setCl_cl, setCl_thr]
    rw [get_push]
    split
    · rename_i hus
      obtain ⟨n1, n2, n3⟩ := hE.nowhere (t := u) (by omega)
      refine Good.of_client c n1 n2 rfl (fun c' hne => ?_) ?_
      · rw [get_modify, if_neg (by intro hx; exact hne hx.1)]; exact n3 c'
      · rw [get_modify, if_pos ⟨rfl, hc⟩]
        refine ⟨fun _ => SIdle_default, by simp, fun m => absurd (mem_view_queue (cl := s.cl[c]!) m) (n3 c),
          fun a e => absurd (mem_view_wait (cl := s.cl[c]!) e) (n3 c), fun r e => absurd (mem_view_give (cl := s.cl[c]!) e) (n3 c)⟩
    · rename_i hus
      refine ⟨hu.idle, forall_get_modify (ClGood s.ordered · u _) c _ hu.cl ?_, hu.kill, hu.joinW, hu.self⟩
      refine ⟨fun e => ?_, by simp, (hu.cl c).queue, (hu.cl c).wait, (hu.cl c).give⟩
      injection e with e; exact absurd e.symm hus
  | @assign c _ t hc hp =>
    obtain ⟨e1, e2, _, e4, e5, e6⟩ := hE.client (mem_view_assign (o := s.ordered) hp)
    obtain ⟨q1, q2⟩ := count_view_assign hp e5
    obtain ⟨w1, w2⟩ := not_wait_of_not_hHand q2
    have hid : SIdle s.thr[t]! := ((h t).cl c).assign hp
    refine sh_signalThr _ (sh_setThr_setCl t c _ _ h e4 (fun u hne => ?_) ?_)
    · exact ⟨by simp, fun e => absurd (CPc.enqueue.inj e).symm hne, ((h u).cl c).queue, ((h u).cl c).wait,
        ((h u).cl c).give⟩
    · cases ho : s.ordered
      · -- unordered: the thread now holds itself
        refine Good.of_self e1 e2 (fun c' => ?_) ⟨rfl, Or.inl ⟨Or.inl hid.top, rfl, by simp, hid.res, by simp⟩⟩
        rw [get_modify]; split
        · rename_i hx; rw [hx.1]; simp [clView, q1, q2]
        · rename_i hx; exact ho ▸ e6 c' fun e => hx ⟨e, hc⟩
      · refine Good.of_client_modify c _ (.inl hc) e1 e2 ?_ (ho ▸ e6)
          ⟨by simp, fun _ _ => ⟨by simp, Or.inl ⟨Or.inl hid.top, rfl, by simp, hid.res⟩⟩, fun m => absurd m q1,
            fun a e => absurd e (w1 a), fun r e => absurd e (w2 r)⟩
        simpa [wN, hid.rq] using hid.wN
  | @enqueueOrd c _ t _ hp ho =>
    refine sh_signalRq c (sh_setCl _ _ h fun u => ?_)
    refine ⟨by simp, by simp, fun m => ?_, ((h u).cl c).wait, ((h u).cl c).give⟩
    rcases List.mem_append.mp m with m | m
    · exact ((h u).cl c).queue m
    · rw [List.mem_singleton.mp m, SQ, if_pos ho]; exact ((h t).cl c).enq hp ho
  | wGo _ hp hr => exact sh_setThr_keeps _ _ h (keeps_go hp hr) id
  | wSleep _ hp => exact sh_setThr_keeps _ _ h (keeps_sleep hp) id
  | wExit _ hp hcb => exact sh_setThr_keeps _ _ h (keeps_exit hp hcb) id
  | wRunOrd _ hp hcb hrq => exact sh_setThr_keeps _ _ h (keeps_runOrd hp hcb hrq) id
  | spWorker _ hp => exact sh_setThr_keeps _ _ h (keeps_unsleep hp) id
  | doneOrd _ hp => exact sh_setThr_signal _ _ h (keeps_doneOrd hp)
  | @wRunUnord t _ j c _ hp hcb hrq =>
    have hw : 0 < wN s.thr[t]! := by simp only [wN, hrq, Option.isSome_some, if_true]; omega
    obtain ⟨e1, e2, e3⟩ := hE.self hw
    exact sh_setThr t _ h (Good.of_self e1 e2 e3 ⟨((h t).self hw).1, Or.inr ⟨⟨c, rfl⟩, rfl, rfl, by simp, rfl⟩⟩)
  | @selfEnq t _ c ht hp =>
    -- the thread leaves its own hands for the queue of the client whose job it ran
    have hw : 0 < wN s.thr[t]! := by simp [wN, hp]
    obtain ⟨e1, e2, e3⟩ := hE.self hw
    obtain ⟨ho, hsw⟩ := (h t).self hw
    have hfin : SFin { s.thr[t]! with pc := .top false } := by
      rcases hsw with ⟨hh, _⟩ | ⟨_, a, b, c1, d⟩
      · rcases hh with hh | hh <;> simp [hp, isTop] at hh
      · exact ⟨rfl, a, b, c1, d⟩
    have hrq : s.thr[t]!.rq = none := hfin.rq
    refine sh_signalRq _ (sh_setThr_setCl t c _ _ h ht (fun u hne => ?_) ?_)
    · refine ⟨((h u).cl c).assign, ((h u).cl c).enq, fun m => ?_, ((h u).cl c).wait, ((h u).cl c).give⟩
      rcases List.mem_append.mp m with m | m
      · exact ((h u).cl c).queue m
      · exact absurd (List.mem_singleton.mp m) hne
    · refine Good.of_client_modify c _ (.inr (e3 c)) e1 e2 (by simp [wN, hrq]) (fun c' _ => e3 c')
        ⟨fun e => absurd (mem_view_assign (cl := s.cl[c]!) e) (e3 c),
          fun e ho' => absurd (mem_view_enq (cl := s.cl[c]!) e ho') (e3 c), fun _ => ?_,
          fun a e => absurd (mem_view_wait (cl := s.cl[c]!) e) (e3 c), fun r e => absurd (mem_view_give (cl := s.cl[c]!) e) (e3 c)⟩
      rw [SQ, ho]; exact hfin
  | @deqTake c _ t rest _ _ _ hq =>
    refine sh_setCl _ _ h fun u => ?_
    refine ⟨((h u).cl c).assign, ((h u).cl c).enq, fun m => ((h u).cl c).queue (hq ▸ List.mem_cons_of_mem _ m),
      fun a e => ?_, by simp⟩
    injection e with e1 e2; subst e1 e2
    exact ⟨((h t).cl c).queue (by rw [hq]; simp), by simp⟩
  | deqExit | deqSleep | callback | spDeq => exact sh_setCl _ _ h fun u => ((h u).cl _).of_hpc rfl rfl (by simp)
  | @waitSleep c _ t _ _ hp hr =>
    refine sh_setCl _ _ h fun u => ⟨((h u).cl c).assign, ((h u).cl c).enq, ((h u).cl c).queue, fun a e => ?_, by simp⟩
    injection e with e1 e2; subst e1 e2
    exact ⟨(((h t).cl c).wait false hp).1, fun _ => hr⟩
  | @spWait c t _ hp =>
    refine sh_setCl _ _ h fun u => ⟨((h u).cl c).assign, ((h u).cl c).enq, ((h u).cl c).queue, fun a e => ?_, by simp⟩
    injection e with e1 e2; subst e1 e2
    exact ⟨(((h t).cl c).wait true hp).1, by simp⟩
  | @waitTake c _ t hc _ hp hr =>
    obtain ⟨e1, e2, e3, e4, e5, e6⟩ := hE.client (mem_view_wait (o := s.ordered) hp)
    obtain ⟨q1, q2⟩ := count_view_hHand (by simp [hp]) e5
    have hsq := (((h t).cl c).wait false hp).1
    -- a finished result, taken: the record is idle again
    have hid : SIdle { s.thr[t]! with res := none } := by
      unfold SQ at hsq
      split at hsq
      · rcases hsq.2 with ⟨_, a, _⟩ | ⟨_, a, _⟩ | ⟨a, _, b, _⟩
        · rw [hr] at a; cases a
        · rw [hr] at a; cases a
        · exact ⟨a, hr, b, rfl, hsq.1⟩
      · exact ⟨hsq.1, hsq.2.1, hsq.2.2.1, rfl, hsq.2.2.2.2⟩
    refine sh_setThr_setCl t c _ _ h e4 (fun u hne => ?_) ?_
    · exact ⟨((h u).cl c).assign, ((h u).cl c).enq, ((h u).cl c).queue, by simp,
        fun r e => absurd (HPc.giveBack.inj e).1.symm hne⟩
    · exact Good.of_client_modify c _ (.inl hc) e1 e2 hid.wN e6
        ⟨fun e => absurd (by simp [show s.cl[c]!.pc = .assign t from e]) q1,
          fun e ho => absurd (by simp [show s.cl[c]!.pc = .enqueue t from e, ho]) q1,
          fun m => absurd m q2, by simp, fun _ _ => hid⟩
  | @giveBack c k t r _ _ hp =>
    apply sh_signalPool
    refine sh_setCl (s := { s with idle := t :: s.idle }) _ _ (sh_setIdle _ h fun u m => ?_)
      fun u => ((h u).cl c).of_hpc rfl rfl (by simp)
    rcases List.mem_cons.mp m with m | m
    · subst m; exact ((h u).cl c).give r hp
    · exact (h u).idle m

theorem sh_init (n max njobs : Nat) (o : Bool) : Sh (init n max njobs o) := fun u =>
  ⟨(fun m => nomatch m), (fun c => by rw [init_cl]; exact ClGood_new _ _ _), (fun e => nomatch e), (fun e => nomatch e),
    fun p => nomatch p⟩

/-- THE HAND-OVER PROTOCOL, any number of clients: in every reachable state every worker thread is in at most one place and its
    record has the shape that place requires -/
theorem inv_reachable {n max njobs : Nat} {o : Bool} {s : St} (hr : Reachable n max njobs o s) : Excl s ∧ Sh s := by
  induction hr with
  | init => exact ⟨excl_init _ _ _ _, sh_init _ _ _ _⟩
  | step _ hs ih => exact ⟨ih.1.of_leF (leF_step hs), sh_step ih.1 ih.2 hs⟩

end TpK
