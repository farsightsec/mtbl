import MtblModel.Reader
import MtblProofs.VarintProofs
/-
  C19 — `mtbl_reader_init_fd` (repaired: index length checked against the file size) never loads
  outside the file, whatever the bytes are; F9 — the pinned code does, on a 530-byte witness.
-/
namespace Mtbl
namespace OpenProofs

theorem rdAt_some_of_le (file : Bytes) (off len : Nat) (h : off + len ≤ file.length) :
    rdAt file off len = some ((file.drop off).take len) := by
  unfold rdAt; simp [h]

theorem rdAt_eq_some (file : Bytes) (off len : Nat) (b : Bytes) (h : rdAt file off len = some b) :
    off + len ≤ file.length ∧ b = (file.drop off).take len := by
  unfold rdAt at h
  split at h
  · injection h with h; exact ⟨by assumption, h.symm⟩
  · cases h

theorem rdAt_none (file : Bytes) (off len : Nat) (h : rdAt file off len = none) :
    file.length < off + len := by
  unfold rdAt at h
  split at h
  · cases h
  · omega

theorem Meta.read_io_lt (buf : Bytes) (m : Meta) (h : Meta.read buf = some m) :
    m.indexBlockOffset < U64 := by
  unfold Meta.read at h
  simp only at h
  split at h
  · cases h
  · injection h with h; subst h; exact dec64_lt buf

/-- The `end` test of reader.c does what its comment says, for files of any size: when it passes,
    the sum did not wrap and the minimal block plus the trailer fit behind `index_block_offset`. -/
theorem end_test_sound (io minBlk n : Nat) (hio : io < U64) (hmb : minBlk ≤ 16)
    (h : ¬ ((io + METADATA_SIZE + minBlk) % U64 > n ∨ (io + METADATA_SIZE + minBlk) % U64 < io)) :
    io + METADATA_SIZE + minBlk ≤ n := by
  unfold METADATA_SIZE U64 at *
  omega

theorem blockInit_data (thr : Nat) (d : Bytes) (b : Blk) (h : blockInit thr d = some b) :
    b.data = d := by
  unfold blockInit at h
  by_cases h4 : d.length < 4
  · rw [if_pos h4] at h; injection h with h; subst h; rfl
  · rw [if_neg h4] at h
    by_cases h8 : d.length < 8
    · rw [if_pos h8] at h; cases h
    · rw [if_neg h8] at h; injection h with h; subst h; rfl

/-- the part of `readerOpen` behind the length check (checksum, then block_init), split off so that lemmas can be
    stated about it (`readerOpen_eq`) -/
def openTail (thr : Nat) (decomp : Nat → Bytes → Option Bytes) (verify : Bool) (file : Bytes)
    (m : Meta) (io ilen ill : Nat) : OpenRes :=
  let n := file.length
  let idx := io + ill + 4
  let crcStep : Option OpenRes :=
    if verify then
      match rdAt file idx ilen with
      | none => some (.oob n)
      | some body =>
        if dec32 (file.drop (io + ill)) = crc32c body then none else some (.abort "index crc")
    else none
  match crcStep with
  | some r => r
  | none =>
    if ilen < 4 then
      .ok { data := file, m, verify, thr, decomp, index := { data := [], size := 0, restartOffset := 0, thr } }
    else if ilen < 8 then .abort "num_restarts size"
    else match rdAt file idx ilen with
      | none => .oob n
      | some body =>
        match blockInit thr body with
        | none => .abort "num_restarts size"
        | some b => .ok { data := file, m, verify, thr, decomp, index := b }

/-- the index length prefix as `readerOpen` decodes it -/
def openPrefix (file : Bytes) (m : Meta) : Nat × Nat :=
  if m.version = .v1 then (dec32 (file.drop m.indexBlockOffset), 4)
  else vdecode64 ((file.drop m.indexBlockOffset).take 10)

theorem readerOpen_eq (fixF9 : Bool) (thr : Nat) (decomp : Nat → Bytes → Option Bytes)
    (verify : Bool) (file : Bytes) :
    readerOpen fixF9 thr decomp verify file =
      (let n := file.length
       if n < METADATA_SIZE then .null else
       match Meta.read (file.drop (n - METADATA_SIZE)) with
       | none => .null
       | some m =>
         let minBlk := if m.version = .v1 then 16 else 13
         let end_ := (m.indexBlockOffset + METADATA_SIZE + minBlk) % U64
         if end_ > n ∨ end_ < m.indexBlockOffset then .null else
         let io := m.indexBlockOffset
         let p := openPrefix file m
         let avail := n - METADATA_SIZE - io
         if fixF9 ∧ (p.2 + 4 > avail ∨ p.1 > avail - p.2 - 4) then .null else
         openTail thr decomp verify file m io p.1 p.2) := by
  unfold readerOpen openTail openPrefix
  by_cases hn : file.length < METADATA_SIZE
  · simp only [hn, if_true]
  · simp only [hn, if_false]
    cases Meta.read (file.drop (file.length - METADATA_SIZE)) with
    | none => rfl
    | some m =>
      -- the two sides differ only in how the pair `(ilen, ill)` is taken apart
      by_cases hv : m.version = .v1
      · simp only [hv, if_true]; rfl
      · simp only [hv, if_false]; rfl

theorem openTail_cases (thr : Nat) (decomp : Nat → Bytes → Option Bytes) (verify : Bool)
    (file : Bytes) (m : Meta) (io ilen ill : Nat) (h : io + ill + 4 + ilen ≤ file.length) :
    (∃ w, openTail thr decomp verify file m io ilen ill = .abort w) ∨
    (openTail thr decomp verify file m io ilen ill =
        .ok { data := file, m, verify, thr, decomp,
              index := { data := [], size := 0, restartOffset := 0, thr } }) ∨
    (∃ b, blockInit thr ((file.drop (io + ill + 4)).take ilen) = some b ∧
        openTail thr decomp verify file m io ilen ill =
          .ok { data := file, m, verify, thr, decomp, index := b }) := by
  unfold openTail
  simp only [rdAt_some_of_le file _ _ h]
  split
  · next r hr =>
    split at hr
    · split at hr
      · cases hr
      · injection hr with hr; subst hr; exact Or.inl ⟨_, rfl⟩
    · cases hr
  · split
    · exact Or.inr (Or.inl rfl)
    · split
      · exact Or.inl ⟨_, rfl⟩
      · split
        · exact Or.inl ⟨_, rfl⟩
        · next b hb => exact Or.inr (Or.inr ⟨b, hb, rfl⟩)

/-- Case principle for open (`fixF9` or not): NULL at once, or the trailer parsed, the `end` test left room for a
    minimal block in front of it, and what remains is the repaired code's length check followed by the tail. -/
theorem readerOpen_cases (fixF9 : Bool) (thr : Nat) (decomp : Nat → Bytes → Option Bytes) (verify : Bool)
    (file : Bytes) :
    readerOpen fixF9 thr decomp verify file = .null ∨
    ∃ m, Meta.read (file.drop (file.length - METADATA_SIZE)) = some m ∧
      m.indexBlockOffset + (if m.version = .v1 then 16 else 13) ≤ file.length - METADATA_SIZE ∧
      readerOpen fixF9 thr decomp verify file =
        if fixF9 ∧ ((openPrefix file m).2 + 4 > file.length - METADATA_SIZE - m.indexBlockOffset ∨
            (openPrefix file m).1 > file.length - METADATA_SIZE - m.indexBlockOffset - (openPrefix file m).2 - 4)
        then .null
        else openTail thr decomp verify file m m.indexBlockOffset (openPrefix file m).1 (openPrefix file m).2 := by
  rw [readerOpen_eq]
  simp only
  by_cases hn : file.length < METADATA_SIZE
  · rw [if_pos hn]; exact Or.inl rfl
  rw [if_neg hn]
  cases hm : Meta.read (file.drop (file.length - METADATA_SIZE)) with
  | none => exact Or.inl rfl
  | some m =>
    simp only
    have hmb : (if m.version = .v1 then 16 else 13 : Nat) ≤ 16 := by split <;> omega
    by_cases hend : (m.indexBlockOffset + METADATA_SIZE + (if m.version = .v1 then 16 else 13)) % U64 > file.length ∨
        (m.indexBlockOffset + METADATA_SIZE + (if m.version = .v1 then 16 else 13)) % U64 < m.indexBlockOffset
    · rw [if_pos hend]; exact Or.inl rfl
    · rw [if_neg hend]
      have := end_test_sound _ _ _ (Meta.read_io_lt _ _ hm) hmb hend
      exact Or.inr ⟨m, rfl, by omega, rfl⟩

theorem readerOpen_fixed_cases (thr : Nat) (decomp : Nat → Bytes → Option Bytes) (verify : Bool)
    (file : Bytes) :
    readerOpen true thr decomp verify file = .null ∨
    ∃ m ilen ill,
      Meta.read (file.drop (file.length - METADATA_SIZE)) = some m ∧
      m.indexBlockOffset + METADATA_SIZE + 13 ≤ file.length ∧
      m.indexBlockOffset + ill + 4 + ilen ≤ file.length - METADATA_SIZE ∧
      readerOpen true thr decomp verify file
        = openTail thr decomp verify file m m.indexBlockOffset ilen ill := by
  rcases readerOpen_cases true thr decomp verify file with h | ⟨m, hm, hroom, heq⟩
  · exact Or.inl h
  rw [heq]
  have hmb : 13 ≤ (if m.version = .v1 then 16 else 13 : Nat) := by split <;> omega
  split
  · exact Or.inl rfl
  · next hg =>
    simp only [true_and] at hg
    exact Or.inr ⟨m, _, _, hm, by unfold METADATA_SIZE at *; omega, by omega, rfl⟩

theorem readerOpen_fixed_shapes (thr : Nat) (decomp : Nat → Bytes → Option Bytes) (verify : Bool)
    (file : Bytes) :
    readerOpen true thr decomp verify file = .null ∨
    (∃ w, readerOpen true thr decomp verify file = .abort w) ∨
    (∃ m, readerOpen true thr decomp verify file =
        .ok { data := file, m, verify, thr, decomp,
              index := { data := [], size := 0, restartOffset := 0, thr } }) ∨
    (∃ m off len b, off + len ≤ file.length - METADATA_SIZE ∧
        blockInit thr ((file.drop off).take len) = some b ∧
        readerOpen true thr decomp verify file =
          .ok { data := file, m, verify, thr, decomp, index := b }) := by
  rcases readerOpen_fixed_cases thr decomp verify file with h | ⟨m, ilen, ill, _, _, hin, h⟩
  · exact Or.inl h
  · rw [h]
    rcases openTail_cases thr decomp verify file m m.indexBlockOffset ilen ill (by omega) with
      ⟨w, hw⟩ | he | ⟨b, hb, hk⟩
    · exact Or.inr (Or.inl ⟨w, hw⟩)
    · exact Or.inr (Or.inr (Or.inl ⟨m, he⟩))
    · exact Or.inr (Or.inr (Or.inr ⟨m, _, _, b, hin, hb, hk⟩))

/-- a decidable fingerprint of an outcome (`OpenRes` carries functions, so has no `DecidableEq`) -/
def tag : OpenRes → Nat × Nat
  | .null => (0, 0)
  | .abort _ => (1, 0)
  | .oob off => (2, off)
  | .ok _ => (3, 0)

theorem eq_null_of_tag (x : OpenRes) (h : tag x = (0, 0)) : x = .null := by
  cases x <;> simp [tag] at h ⊢

theorem eq_oob_of_tag (x : OpenRes) (off : Nat) (h : tag x = (2, off)) : x = .oob off := by
  cases x <;> simp [tag] at h ⊢
  exact h

end OpenProofs

open OpenProofs

/-- C19 (memory safety of open): on arbitrary bytes, with or without checksum verification, the
    repaired `mtbl_reader_init_fd` never loads outside the file. -/
theorem C19_safe (thr : Nat) (decomp : Nat → Bytes → Option Bytes) (verify : Bool) (file : Bytes) :
    ∀ off, readerOpen true thr decomp verify file ≠ .oob off := by
  intro off h
  rcases readerOpen_fixed_shapes thr decomp verify file with
    h' | ⟨_, h'⟩ | ⟨_, h'⟩ | ⟨_, _, _, _, _, _, h'⟩ <;> rw [h'] at h <;> cases h

/-- C19: the only outcomes are NULL, an assertion, or a reader. -/
theorem C19_outcomes (thr : Nat) (decomp : Nat → Bytes → Option Bytes) (verify : Bool)
    (file : Bytes) :
    readerOpen true thr decomp verify file = .null ∨
    (∃ w, readerOpen true thr decomp verify file = .abort w) ∨
    (∃ r, readerOpen true thr decomp verify file = .ok r) := by
  rcases readerOpen_fixed_shapes thr decomp verify file with
    h' | ⟨w, h'⟩ | ⟨_, h'⟩ | ⟨_, _, _, _, _, _, h'⟩
  · exact Or.inl h'
  · exact Or.inr (Or.inl ⟨w, h'⟩)
  · exact Or.inr (Or.inr ⟨_, h'⟩)
  · exact Or.inr (Or.inr ⟨_, h'⟩)

/-- C19: the index block handed to the iterators is a slice of the file in front of the trailer
    (or the invalid empty block that block_init makes of a length below 4). -/
theorem C19_ok_index_inside (thr : Nat) (decomp : Nat → Bytes → Option Bytes) (verify : Bool)
    (file : Bytes) (r : Rd) (h : readerOpen true thr decomp verify file = .ok r) :
    r.data = file ∧
    (r.index.size = 0 ∨
      ∃ off, off + r.index.data.length ≤ file.length - METADATA_SIZE ∧
        r.index.data = (file.drop off).take r.index.data.length) := by
  rcases readerOpen_fixed_shapes thr decomp verify file with
    h' | ⟨w, h'⟩ | ⟨_, h'⟩ | ⟨m, off, len, b, hin, hb, h'⟩ <;> rw [h'] at h
  · cases h
  · cases h
  · injection h with h; subst h; exact ⟨rfl, Or.inl rfl⟩
  · injection h with h; subst h
    refine ⟨rfl, Or.inr ⟨off, ?_⟩⟩
    have hd := blockInit_data _ _ _ hb
    have hl : ((file.drop off).take len).length = len := by
      simp only [List.length_take, List.length_drop]; omega
    simp only [hd, hl]
    exact ⟨hin, trivial⟩

/-- The loads the model does not check individually (the index length prefix: at most 10 varint
    bytes or 4 fixed bytes at `index_block_offset`, and the 4 checksum bytes when the prefix is
    short) are covered by the `end` test of the pinned code, for files of any size: whenever open
    does not return NULL, the trailer parsed and 13 bytes (16 for v1) at `index_block_offset` lie
    in front of it.  The unsigned wrap-around of `end` is handled (`end_test_sound`). -/
theorem C19_prefix_inside (fixF9 : Bool) (thr : Nat) (decomp : Nat → Bytes → Option Bytes)
    (verify : Bool) (file : Bytes) (h : readerOpen fixF9 thr decomp verify file ≠ .null) :
    ∃ m, Meta.read (file.drop (file.length - METADATA_SIZE)) = some m ∧
      m.indexBlockOffset + (if m.version = .v1 then 16 else 13) ≤ file.length - METADATA_SIZE := by
  rcases readerOpen_cases fixF9 thr decomp verify file with h' | ⟨m, hm, hroom, _⟩
  · exact absurd h' h
  · exact ⟨m, hm, hroom⟩

/-! ### F9 — the pinned code reads outside the file -/

/-- A 529-byte file with a well-formed v2 trailer whose index frame announces 4294967295 bytes. -/
def f9File : Bytes :=
  [0x64, 0x61, 0x74, 0x61] ++                 -- 4 bytes in front of the index frame
  [0xff, 0xff, 0xff, 0xff, 0x0f] ++           -- varint index length = 4294967295
  [0, 0, 0, 0] ++                             -- checksum field
  [0, 0, 0, 0] ++                             -- the only four bytes of index data that exist
  fixed64 4 ++ List.replicate 500 0 ++ fixed32 MAGIC_V2   -- trailer: index_block_offset = 4, v2 magic

theorem f9File_length : f9File.length = 529 := by decide +kernel

/-- the trailer is accepted by metadata_read; it is what `Meta.write` produces for offset 4 -/
theorem f9File_meta :
    Meta.read (f9File.drop (f9File.length - METADATA_SIZE)) = some { indexBlockOffset := 4 } ∧
    f9File.drop (f9File.length - METADATA_SIZE) = Meta.write { indexBlockOffset := 4 } := by
  decide +kernel

theorem f9File_prefix : vdecode64 ((f9File.drop 4).take 10) = (4294967295, 5) := by decide +kernel

/-- F9: the pinned `mtbl_reader_init_fd` passes all its checks and block_init then loads
    `num_restarts` from offset 4 + 5 + 4 + 4294967295 - 4, far behind the 529 bytes of the file. -/
theorem F9_witness_at :
    readerOpen false 4294967295 (fun _ _ => none) false f9File = .oob 529 :=
  eq_oob_of_tag _ _ (by decide +kernel)

theorem F9_witness :
    ∃ off, readerOpen false 4294967295 (fun _ _ => none) false f9File = .oob off :=
  ⟨529, F9_witness_at⟩

theorem F9_fixed : readerOpen true 4294967295 (fun _ _ => none) false f9File = .null :=
  eq_null_of_tag _ (by decide +kernel)

/-- the same with checksum verification switched on (the crc loop is the first to run off the file) -/
theorem F9_witness_verify :
    readerOpen false 4294967295 (fun _ _ => none) true f9File = .oob 529 :=
  eq_oob_of_tag _ _ (by decide +kernel)

theorem F9_fixed_verify : readerOpen true 4294967295 (fun _ _ => none) true f9File = .null :=
  eq_null_of_tag _ (by decide +kernel)

end Mtbl
