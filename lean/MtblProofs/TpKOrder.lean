import MtblProofs.TpKShape
/-
  The k-client pool machine, ordered delivery (the mode pooled writers use): for every client, at every moment, the results
  delivered so far, the one in the handler's hands, the jobs of the threads in the client's result queue (in queue order) and
  the job just handed over by the caller are, in this order, exactly jobs 0, 1, 2, … of that client — whatever the other
  clients sharing the pool do.  Consequences: each client's results are delivered in submission order, none twice, and when
  the client's thread has returned all of them have been delivered.  `JOrd`: every client's `line` is 0, 1, 2, …; `Ph`/`PhAll`:
  the phases of a client (`Phs` in TpKLive is something else: the pool's sleepers).
-/
namespace TpK

def jobOf (th : Thr) : Option Nat := match th.cb with | some j => some j | none => th.res

def hJob (thr : Array Thr) (h : HPc) : List (Option Nat) := match h with
  | .waitRes t _ => [jobOf thr[t]!]
  | .giveBack _ r => [r]
  | .callback r => [r]
  | _ => []
def cJob (thr : Array Thr) (pc : CPc) : List (Option Nat) := match pc with
  | .enqueue t => [jobOf thr[t]!]
  | _ => []
def pend (pc : CPc) : Nat := match pc with | .enqueue _ => 1 | _ => 0

/-- the jobs of client `cl`, oldest first -/
def line (thr : Array Thr) (cl : Client) : List (Option Nat) :=
  cl.delivered ++ hJob thr cl.hpc ++ cl.queue.map (fun t => jobOf thr[t]!) ++ cJob thr cl.pc

def J (thr : Array Thr) (cl : Client) : Prop := line thr cl = (List.range (cl.nextJob + pend cl.pc)).map some

/-- ordered mode: every client's line is 0, 1, 2, …; an `assign` hand holds a thread without a job -/
def JOrd (s : St) : Prop := s.ordered = true → ∀ c : Nat, J s.thr s.cl[c]!

theorem J_new (thr : Array Thr) : J thr ({} : Client) := by
  simp [J, line, hJob, cJob, pend]

/-- the line reads thread records only at: the queue, the thread the handler waits for, the one the caller is queueing -/
theorem line_congr' (thr thr' : Array Thr) (cl : Client) (hq : ∀ t ∈ cl.queue, jobOf thr'[t]! = jobOf thr[t]!)
    (hh : ∀ t a, cl.hpc = .waitRes t a → jobOf thr'[t]! = jobOf thr[t]!)
    (hc : ∀ t, cl.pc = .enqueue t → jobOf thr'[t]! = jobOf thr[t]!) : line thr' cl = line thr cl := by
  unfold line
  have hh : hJob thr' cl.hpc = hJob thr cl.hpc := by
    cases hp : cl.hpc with
    | waitRes t a => simp only [hJob]; rw [hh t a hp]
    | _ => rfl
  have hc : cJob thr' cl.pc = cJob thr cl.pc := by
    cases hp : cl.pc with
    | enqueue t => simp only [cJob]; rw [hc t hp]
    | _ => rfl
  rw [List.map_congr_left hq, hh, hc]

theorem line_congr (o : Bool) (thr thr' : Array Thr) (cl : Client) (ho : o = true)
    (h : ∀ t ∈ clView o cl, jobOf thr'[t]! = jobOf thr[t]!) : line thr' cl = line thr cl :=
  line_congr' thr thr' cl (fun t m => h t (mem_view_queue m)) (fun t _ e => h t (mem_view_wait e))
    (fun t e => h t (mem_view_enq e ho))

theorem J_congr (o : Bool) (thr thr' : Array Thr) (cl : Client) (ho : o = true)
    (h : ∀ t ∈ clView o cl, jobOf thr'[t]! = jobOf thr[t]!) (hj : J thr cl) : J thr' cl := by
  unfold J at hj ⊢
  rw [line_congr o thr thr' cl ho h]; exact hj


theorem line_wakeH (thr : Array Thr) (t : Nat) (cl : Client) : line thr (wakeH t cl) = line thr cl := by
  rcases wakeH_cases t cl with ⟨_, e⟩ | ⟨h, e⟩ <;> rw [e]
  simp [line, hJob, h]

theorem J_wakeH (thr : Array Thr) (t : Nat) (cl : Client) (h : J thr cl) : J thr (wakeH t cl) := by
  unfold J at h ⊢
  rw [line_wakeH, wakeH_pc, wakeH_nextJob]; exact h

theorem J_same {thr : Array Thr} {cl cl' : Client} (h : J thr cl) (h1 : line thr cl' = line thr cl)
    (h2 : cl'.nextJob + pend cl'.pc = cl.nextJob + pend cl.pc) : J thr cl' := by
  unfold J at h ⊢; rw [h1, h2]; exact h

theorem jobOf_wakeW (th : Thr) : jobOf (wakeW th) = jobOf th := by
  rcases wakeW_cases th with e | ⟨_, e⟩ <;> rw [e]
  rfl

theorem jord_setCl {s : St} (c : Nat) (f : Client → Client) (h : JOrd s) (hf : s.ordered = true → J s.thr (f s.cl[c]!)) :
    JOrd (setCl s c f) :=
  fun ho => forall_get_modify (J s.thr) c f (h ho) (hf ho)

theorem jord_thr {s : St} (thr' : Array Thr) (h : JOrd s)
    (hj : ∀ (c : Nat) (t : Nat), t ∈ clView s.ordered s.cl[c]! → jobOf thr'[t]! = jobOf s.thr[t]!) :
    JOrd { s with thr := thr' } :=
  fun ho c => J_congr s.ordered s.thr thr' _ ho (hj c) (h ho c)

theorem jord_setThr {s : St} (t : Nat) (g : Thr → Thr) (h : JOrd s) (hg : jobOf (g s.thr[t]!) = jobOf s.thr[t]!) :
    JOrd (setThr s t g) := by
  refine jord_thr _ h fun c u _ => ?_
  rw [get_modify]; split
  · rename_i hc; rw [hc.1]; exact hg
  · rfl

theorem jord_signalThr {s : St} (t : Nat) (h : JOrd s) : JOrd (signalThr s t) :=
  fun ho => forall_get_map (J _) _ (J_new _) fun c => J_wakeH _ t _ (jord_setThr t wakeW h (jobOf_wakeW _) ho c)

theorem jord_opc {s : St} (o' : OPc) (h : JOrd s) : JOrd { s with opc := o' } := h

theorem jord_of_unordered {s : St} (h : s.ordered = false) : JOrd s := fun ho => Bool.noConfusion (h.symm.trans ho)

theorem jord_setCl_same {s : St} (c : Nat) (f : Client → Client) (h : JOrd s)
    (h1 : line s.thr (f s.cl[c]!) = line s.thr s.cl[c]!)
    (h2 : (f s.cl[c]!).nextJob + pend (f s.cl[c]!).pc = s.cl[c]!.nextJob + pend s.cl[c]!.pc) : JOrd (setCl s c f) :=
  jord_setCl c f h fun ho => J_same (h ho c) h1 h2

theorem jord_signalRq {s : St} (c : Nat) (h : JOrd s) : JOrd (signalRq s c) := by
  rw [signalRq_eq]
  rcases wakeDeq_cases s.cl[c]! with e | ⟨hp, e⟩
  · exact jord_setCl_same c _ h (by rw [e]) (by rw [e])
  · exact jord_setCl_same c _ h (by rw [e]; simp [line, hJob, hp]) (by rw [e])

theorem jord_signalPool {s : St} (k : Nat) (h : JOrd s) : JOrd (signalPool s k) := by
  rcases signalPool_cases s k with ⟨_, e⟩ | ⟨_, e⟩ | ⟨c, _, hp, e⟩ <;> rw [e]
  · exact h
  · exact h
  · exact jord_setCl_same _ _ h (by simp [line, cJob, hp]) (by simp [pend, hp])

/-- no hypothesis on the old program point: from `enqueue` the line would drop its last job, which is fine too -/
theorem J_drop_pc {thr : Array Thr} {cl : Client} (p : CPc) (hc : cJob thr p = []) (hn : pend p = 0) (h : J thr cl) :
    J thr { cl with pc := p } := by
  unfold J line at h ⊢
  simp only [hc, hn, List.append_nil, Nat.add_zero]
  cases hp : cl.pc with
  | enqueue t =>
    simp only [hp, cJob, pend, List.range_succ, List.map_append, List.map_cons, List.map_nil] at h
    exact (List.append_inj' h rfl).1
  | _ => simp only [hp, cJob, pend, List.append_nil, Nat.add_zero] at h; exact h

theorem jord_setCl_drop {s : St} (c : Nat) (f : Client → Client) {p : CPc} (h : JOrd s)
    (hf : ∀ cl, (f cl).pc = p ∧ line s.thr (f cl) = line s.thr { cl with pc := p } ∧ (f cl).nextJob = cl.nextJob)
    (hc : cJob s.thr p = []) (hn : pend p = 0) : JOrd (setCl s c f) := by
  refine jord_setCl c f h fun ho => ?_
  have := J_drop_pc p hc hn (h ho c)
  unfold J at this ⊢
  rw [(hf _).2.1, (hf _).2.2, (hf _).1]; exact this

theorem jobOf_worker_step (th : Thr) (j : Nat) (hcb : th.cb = some j) (p : WPc) (r : Bool) (q : Option Nat) :
    jobOf { th with res := some j, cb := none, rq := q, running := r, pc := p } = jobOf th := by
  simp [jobOf, hcb]

theorem range_succ_map (n : Nat) : (List.range (n + 1)).map some = (List.range n).map some ++ [some n] := by
  rw [List.range_succ, List.map_append]; rfl

theorem jobOf_setThr_ne (s : St) (t : Nat) (g : Thr → Thr) {u : Nat} (hu : u ≠ t) :
    jobOf (setThr s t g).thr[u]! = jobOf s.thr[u]! := by
  rw [thr_setThr_ne s t g u hu]

theorem jord_setThr_setCl {s : St} (t c : Nat) (g : Thr → Thr) (f : Client → Client) (h : JOrd s)
    (hE : ∀ c' : Nat, c' ≠ c → t ∉ clView s.ordered s.cl[c']!)
    (hc : s.ordered = true → c < s.cl.size → J (setThr s t g).thr (f s.cl[c]!)) : JOrd (setCl (setThr s t g) c f) := by
  intro ho c'
  have ho' : s.ordered = true := ho
  show J (setThr s t g).thr (s.cl.modify c f)[c']!
  rw [get_modify]
  split
  · rename_i hcc; rw [hcc.1]; exact hc ho' hcc.2
  · rename_i hcc
    by_cases e : c' = c
    · have hoob : ¬ c < s.cl.size := fun x => hcc ⟨e, x⟩
      rw [e, cl_oob s c hoob]; exact J_new _
    · refine J_congr s.ordered s.thr _ _ ho' (fun u m => ?_) (h ho' c')
      rw [thr_setThr, if_neg (fun hx : u = t ∧ t < s.thr.size => hE c' e (hx.1 ▸ m))]

theorem jord_step {s s' : St} {l : Lbl} (hE : Excl s) (hS : Sh s) (h : JOrd s) (hs : step s l = some s') : JOrd s' := by
  cases Step.of_step hs with
  | spawn => exact jord_opc _ (jord_setCl _ _ h fun _ => J_new _)
  | joinC | destroyDone | destroySleep | destroyTake | joinW | spOwner => exact h
  | kill => exact jord_signalThr _ (jord_opc _ (jord_setThr _ _ h rfl))
  | start | mkH | nextDone | nextSleep | joinH => exact jord_setCl_drop _ _ h (fun _ => ⟨rfl, rfl, rfl⟩) rfl rfl
  | nextTake => exact jord_setCl_drop (s := s) _ _ h (fun _ => ⟨rfl, rfl, rfl⟩) rfl rfl
  | nextGrow => exact jord_setCl_drop (s := s) _ _ h (fun _ => ⟨rfl, rfl, rfl⟩) rfl rfl
  | finish => exact jord_signalRq _ (jord_setCl_drop _ _ h (fun _ => ⟨rfl, rfl, rfl⟩) rfl rfl)
  | create =>
    -- the threads that clients hold exist already
    refine jord_setCl_drop _ _ (jord_thr _ h fun c' u m => ?_) (fun _ => ⟨rfl, rfl, rfl⟩) rfl rfl
    rw [get_push, if_neg]
    have := hE.client_lt m
    omega
  | @assign c _ t hc hp =>
    obtain ⟨_, _, _, e4, e5, e6⟩ := hE.client (mem_view_assign (o := s.ordered) hp)
    obtain ⟨q1, q2⟩ := count_view_assign hp e5
    refine jord_signalThr _ (jord_setThr_setCl t c _ _ h e6 fun ho _ => ?_)
    -- the thread in the caller's hand gets the next job; nothing else of the line reads its record
    have hold := h ho c
    unfold J at hold ⊢
    have e2 : ∀ thr, line thr { s.cl[c]! with pc := .enqueue t } = line thr s.cl[c]! ++ [jobOf thr[t]!] := fun thr => by
      simp [line, cJob, hp]
    rw [e2, line_congr' s.thr _ s.cl[c]! (fun u m => jobOf_setThr_ne s t _ fun e => q1 (e ▸ m))
      (fun u a e => jobOf_setThr_ne s t _ fun e' => (not_wait_of_not_hHand q2).1 a (e' ▸ e))
      (fun u e => nomatch hp.symm.trans e), hold, thr_setThr, if_pos ⟨rfl, e4⟩]
    simp [pend, hp, range_succ_map, jobOf]
  | @enqueueOrd c _ t _ hp ho =>
    refine jord_signalRq c (jord_setCl c _ h fun _ => ?_)
    have hold := h ho c
    unfold J line at hold ⊢
    simp only [hp, cJob, pend] at hold
    simp only [cJob, pend, List.map_append, List.map_cons, List.map_nil, List.append_nil, Nat.add_zero]
    rw [← hold]; simp [List.append_assoc]
  | enqueueUnord _ _ ho => exact jord_of_unordered ho
  | wGo | wSleep | wExit | spWorker => exact jord_setThr _ _ h rfl
  | wRunUnord _ _ hcb | wRunOrd _ _ hcb => exact jord_setThr _ _ h (jobOf_worker_step _ _ hcb _ _ _)
  | @selfEnq t _ c _ hp =>
    -- happens in unordered mode only
    exact jord_of_unordered ((hS t).self (by simp [wN, hp])).1
  | doneOrd => exact jord_signalThr _ (jord_setThr _ _ h rfl)
  | deqTake _ _ hp hq => exact jord_setCl_same _ _ h (by simp [line, hJob, hp, hq]) rfl
  | deqExit _ _ hp | deqSleep _ _ hp | waitSleep _ _ hp | callback _ _ hp | spDeq _ hp | spWait _ hp =>
    exact jord_setCl_same _ _ h (by simp [line, hJob, hp]) rfl
  | spClient _ hp => exact jord_setCl_same _ _ h (by simp [line, cJob, hp]) (by simp [pend, hp])
  | giveBack _ _ hp => exact jord_signalPool _ (jord_setCl_same (s := { s with idle := _ }) _ _ h (by simp [line, hJob, hp]) rfl)
  | @waitTake c _ t hc _ hp hr =>
    obtain ⟨_, _, _, e4, e5, e6⟩ := hE.client (mem_view_wait (o := s.ordered) hp)
    obtain ⟨q1, q2⟩ := count_view_hHand (by simp [hp]) e5
    refine jord_setThr_setCl t c _ _ h e6 fun ho _ => ?_
    -- the result moves from the thread's record into the handler's hand
    have hcb : s.thr[t]!.cb = none := by
      have hsq := (((hS t).cl c).wait false hp).1
      rw [SQ, if_pos ho] at hsq
      rcases hsq.2 with ⟨_, a, _⟩ | ⟨_, a, _⟩ | ⟨_, _, b, _⟩
      · rw [hr] at a; cases a
      · rw [hr] at a; cases a
      · exact b
    refine (line_congr' s.thr _ { s.cl[c]! with hpc := .giveBack t s.thr[t]!.res }
      (fun u m => jobOf_setThr_ne s t _ fun e => q2 (e ▸ m)) (fun u a e => HPc.noConfusion e)
      (fun u e => jobOf_setThr_ne s t _ fun e' => q1 (by rw [show s.cl[c]!.pc = _ from e, e']; simp [ho]))).trans
      (Eq.trans ?_ (h ho c))
    simp [line, hJob, hp, jobOf, hcb]

theorem jord_init (n max njobs : Nat) (o : Bool) : JOrd (init n max njobs o) := fun _ c => by
  rw [init_cl]; exact J_new _

theorem jord_reachable {n max njobs : Nat} {o : Bool} {s : St} (hr : Reachable n max njobs o s) : JOrd s := by
  induction hr with
  | init => exact jord_init _ _ _ _
  | step hr' hs ih => exact jord_step (inv_reachable hr').1 (inv_reachable hr').2 ih hs

theorem range_map_prefix {l r : List (Option Nat)} {n : Nat} (h : l ++ r = (List.range n).map some) :
    l = (List.range l.length).map some := by
  have hlen : l.length ≤ n := by
    have := congrArg List.length h
    simp at this; omega
  have h1 : (l ++ r).take l.length = ((List.range n).map some).take l.length := by rw [h]
  rw [List.take_left, ← List.map_take, List.take_range, Nat.min_eq_left hlen] at h1
  exact h1

/-- ORDERED DELIVERY PER CLIENT, any number of clients on the pool: what client c has been delivered so far is exactly the
    results of its jobs 0, 1, …, in this order (in particular no result twice, none that was not submitted) -/
theorem order_reachable {n max njobs : Nat} {s : St} (hr : Reachable n max njobs true s) (ho : s.ordered = true) (c : Nat) :
    s.cl[c]!.delivered = (List.range s.cl[c]!.delivered.length).map some := by
  have h := jord_reachable hr ho c
  unfold J line at h
  rw [List.append_assoc, List.append_assoc] at h
  exact range_map_prefix h


/-! ### phases of a client: all jobs dispatched before the handler is told to finish; the handler exits with an empty queue;
    the client thread returns after the handler -/
structure Ph (njobs : Nat) (o : Bool) (cl : Client) : Prop where
  le : cl.nextJob + pend cl.pc ≤ njobs
  lt : (cl.pc = .create ∨ ∃ t, cl.pc = .assign t) → cl.nextJob < njobs
  fin : (cl.pc = .finish ∨ cl.pc = .joinH ∨ cl.pc = .done) → cl.nextJob = njobs
  flag : cl.finished = true → (cl.pc = .joinH ∨ cl.pc = .done)
  exit : cl.hpc = .exited → cl.finished = true ∧ (o = true → cl.queue = [])
  done : cl.pc = .done → cl.hpc = .exited

def PhAll (s : St) : Prop := ∀ c : Nat, Ph s.njobs s.ordered s.cl[c]!

theorem Ph_new (n : Nat) (o : Bool) : Ph n o ({} : Client) :=
  ⟨by simp [pend], by simp, by simp, by simp, by simp, by simp⟩

theorem Ph_wakeH {n : Nat} {o : Bool} {cl : Client} (t : Nat) (h : Ph n o cl) : Ph n o (wakeH t cl) := by
  rcases wakeH_cases t cl with ⟨_, e⟩ | ⟨hh, e⟩ <;> rw [e]
  · exact h
  · exact ⟨h.le, h.lt, h.fin, h.flag, (fun hx => nomatch hx), fun hx => nomatch hh.symm.trans (h.done hx)⟩

/-- a step of the caller before `finish`: `hle` bounds the new job count, `hnew` is what the new program point asks for -/
theorem Ph.of_pc {n : Nat} {o : Bool} {cl cl' : Client} (h : Ph n o cl) (hq : cl'.queue = cl.queue) (hh : cl'.hpc = cl.hpc)
    (hf : cl'.finished = cl.finished) (hnf : cl.pc ≠ .joinH ∧ cl.pc ≠ .done) (hle : cl'.nextJob + pend cl'.pc ≤ n)
    (hnew : ((cl'.pc = .create ∨ ∃ t, cl'.pc = .assign t) → cl'.nextJob < n) ∧ (cl'.pc = .finish → cl'.nextJob = n) ∧
      cl'.pc ≠ .joinH ∧ cl'.pc ≠ .done) : Ph n o cl' :=
  ⟨hle, hnew.1, fun e => e.elim hnew.2.1 fun e => e.elim (fun e => absurd e hnew.2.2.1) fun e => absurd e hnew.2.2.2,
    fun e => (h.flag (hf ▸ e)).elim (fun e => absurd e hnf.1) fun e => absurd e hnf.2, fun e => hf ▸ hq ▸ h.exit (hh ▸ e),
    fun e => absurd e hnew.2.2.2⟩

theorem Ph.of_hpc {n : Nat} {o : Bool} {cl cl' : Client} (h : Ph n o cl) (hp : cl'.pc = cl.pc) (hn : cl'.nextJob = cl.nextJob)
    (hf : cl'.finished = cl.finished) (he : cl'.hpc = .exited → cl.finished = true ∧ (o = true → cl'.queue = []))
    (hd : cl.hpc ≠ .exited) : Ph n o cl' :=
  ⟨hp ▸ hn ▸ h.le, hp ▸ hn ▸ h.lt, hp ▸ hn ▸ h.fin, hp ▸ hf ▸ h.flag, fun e => hf ▸ he e,
    fun e => absurd (h.done (hp ▸ e)) hd⟩

theorem ph_setCl {s : St} (c : Nat) (f : Client → Client) (h : PhAll s) (hf : Ph s.njobs s.ordered (f s.cl[c]!)) :
    PhAll (setCl s c f) :=
  forall_get_modify (Ph s.njobs s.ordered) c f h hf

theorem ph_signalThr {s : St} (t : Nat) (h : PhAll s) : PhAll (signalThr s t) :=
  forall_get_map (Ph s.njobs s.ordered) _ (Ph_new _ _) fun c => Ph_wakeH t (h c)

theorem ph_signalRq {s : St} (c : Nat) (h : PhAll s) : PhAll (signalRq s c) := by
  rw [signalRq_eq]
  refine ph_setCl c _ h ?_
  rcases wakeDeq_cases s.cl[c]! with e | ⟨hh, e⟩ <;> rw [e]
  · exact h c
  · exact (h c).of_hpc rfl rfl rfl (fun hx => nomatch hx) (fun hx => nomatch hh.symm.trans hx)

theorem ph_signalPool {s : St} (k : Nat) (h : PhAll s) : PhAll (signalPool s k) := by
  rcases signalPool_cases s k with ⟨_, e⟩ | ⟨_, e⟩ | ⟨c, _, hp, e⟩ <;> rw [e]
  · exact h
  · exact h
  · exact ph_setCl _ _ h ((h c).of_pc rfl rfl rfl (by simp [hp]) (Nat.le_trans (Nat.le_add_right _ _) (h c).le) (by simp))

theorem ph_thr {s : St} (thr' : Array Thr) (h : PhAll s) : PhAll { s with thr := thr' } := h

theorem ph_step {s s' : St} {l : Lbl} (hS : Sh s) (h : PhAll s) (hs : step s l = some s') : PhAll s' := by
  cases Step.of_step hs with
  | spawn =>
    exact ph_setCl (s := s) _ _ h ⟨by simp [pend], by simp, by simp, by simp, by simp, by simp⟩
  | joinC | destroyDone | destroySleep | destroyTake | joinW | spOwner | wGo | wSleep | wExit | wRunUnord | wRunOrd
  | spWorker => exact h
  | kill | doneOrd => exact ph_signalThr _ (show PhAll _ from h)
  | @start c _ _ hp | @mkH c _ _ hp | @nextSleep c _ _ hp | @spClient c _ hp =>
    exact ph_setCl _ _ h ((h c).of_pc rfl rfl rfl (by simp [hp]) (Nat.le_trans (Nat.le_add_right _ _) (h c).le) (by simp))
  | @nextDone c _ _ hp hj =>
    have := (h c).le
    simp only [pend, hp, Nat.add_zero] at this
    exact ph_setCl _ _ h ((h c).of_pc rfl rfl rfl (by simp [hp]) this ⟨by simp, fun _ => Nat.le_antisymm this hj, by simp⟩)
  | @nextTake c _ _ _ _ hp hj | @nextGrow c _ _ hp hj =>
    have := (h c).le
    simp only [pend, hp, Nat.add_zero] at this
    exact ph_setCl (s := { s with idle := _, count := _ }) _ _ h
      ((h c).of_pc rfl rfl rfl (by simp [hp]) this ⟨fun _ => hj, by simp, by simp⟩)
  | @create c _ _ hp =>
    have hlt := (h c).lt (Or.inl hp)
    exact ph_setCl (s := { s with thr := _ }) _ _ h
      ((h c).of_pc rfl rfl rfl (by simp [hp]) (Nat.le_of_lt hlt) ⟨fun _ => hlt, by simp, by simp⟩)
  | @assign c _ t _ hp =>
    have hlt := (h c).lt (Or.inr ⟨t, hp⟩)
    exact ph_signalThr _ (ph_setCl (s := setThr s t _) _ _ h
      ((h c).of_pc rfl rfl rfl (by simp [hp]) hlt (by simp)))
  | @enqueueOrd c _ t _ hp =>
    have := (h c).le
    simp only [pend, hp] at this
    exact ph_signalRq _ (ph_setCl _ _ h
      ⟨this, by simp, by simp, fun hx => by have := (h c).flag hx; simp [hp] at this,
        fun hx => by have := (h c).flag ((h c).exit hx).1; simp [hp] at this, by simp⟩)
  | @enqueueUnord c _ t _ hp =>
    have := (h c).le
    simp only [pend, hp] at this
    exact ph_setCl _ _ h ((h c).of_pc rfl rfl rfl (by simp [hp]) this (by simp))
  | @finish c _ _ hp =>
    have hf := (h c).fin (Or.inl hp)
    exact ph_signalRq _ (ph_setCl _ _ h
      ⟨Nat.le_of_eq hf, by simp, fun _ => hf, by simp, fun hx => ⟨rfl, ((h c).exit hx).2⟩, by simp⟩)
  | @joinH c _ _ hp he =>
    have hf := (h c).fin (Or.inr (Or.inl hp))
    exact ph_setCl _ _ h ⟨Nat.le_of_eq hf, by simp, fun _ => hf, by simp, (h c).exit, fun _ => he⟩
  | @selfEnq t _ c _ hp =>
    have ho := ((hS t).self (by simp [wN, hp])).1
    exact ph_signalRq _ (ph_setCl (s := setThr s t _) _ _ h
      ⟨(h c).le, (h c).lt, (h c).fin, (h c).flag, fun hx => ⟨((h c).exit hx).1, fun hx2 => Bool.noConfusion (ho.symm.trans hx2)⟩,
        (h c).done⟩)
  | @deqExit c _ _ _ hp hq hf =>
    exact ph_setCl _ _ h ((h c).of_hpc rfl rfl rfl (fun _ => ⟨hf.1, fun _ => hq⟩) (by simp [hp]))
  | @deqTake c _ _ _ _ _ hp | @deqSleep c _ _ _ hp | @waitSleep c _ _ _ _ hp | @callback c _ _ _ _ hp | @spDeq c _ hp
  | @spWait c _ _ hp =>
    exact ph_setCl _ _ h ((h c).of_hpc rfl rfl rfl (fun hx => nomatch hx) (by simp [hp]))
  | @waitTake c _ t _ _ hp =>
    exact ph_setCl (s := setThr s t _) _ _ h ((h c).of_hpc rfl rfl rfl (fun hx => nomatch hx) (by simp [hp]))
  | @giveBack c _ _ _ _ _ hp =>
    exact ph_signalPool _ (ph_setCl (s := { s with idle := _ }) _ _ h
      ((h c).of_hpc rfl rfl rfl (fun hx => nomatch hx) (by simp [hp])))

theorem ph_init (n max njobs : Nat) (o : Bool) : PhAll (init n max njobs o) := fun c => by
  rw [init_cl]; exact Ph_new _ _

theorem ph_reachable {n max njobs : Nat} {o : Bool} {s : St} (hr : Reachable n max njobs o s) : PhAll s := by
  induction hr with
  | init => exact ph_init _ _ _ _
  | step hr' hs ih => exact ph_step (inv_reachable hr').2 ih hs

/-- ALL RESULTS BEFORE THE CLIENT RETURNS, any number of clients on the pool (ordered delivery): when client c's thread has
    returned from result_handler_destroy, it has been delivered the results of all its `njobs` jobs, in order -/
theorem complete_reachable {n max njobs : Nat} {o : Bool} {s : St} (hr : Reachable n max njobs o s)
    (ho : s.ordered = true) (c : Nat) (hd : s.cl[c]!.pc = .done) :
    s.cl[c]!.delivered = (List.range s.njobs).map some := by
  have hJ := jord_reachable hr ho c
  have hP := ph_reachable hr c
  have he := hP.done hd
  have hq := (hP.exit he).2 ho
  have hn := hP.fin (Or.inr (Or.inr hd))
  unfold J line at hJ
  simp only [he, hq, hd, hJob, cJob, pend, List.map_nil, List.append_nil, Nat.add_zero, hn] at hJ
  exact hJ


/-! ### a deterministic scheduler, for non-vacuity examples: always the first enabled thread -/
def allWho (s : St) : List Who :=
  .owner :: ((List.range s.cl.size).flatMap fun c => [Who.client c, Who.handler c]) ++ (List.range s.thr.size).map Who.worker
def firstEnabled (s : St) : Option Lbl :=
  (allWho s).findSome? fun w => if (step s (.run w 0)).isSome then some (.run w 0) else none
def runAuto : Nat → St → St
  | 0, s => s
  | f + 1, s => match firstEnabled s with
    | some l => runAuto f ((step s l).getD s)
    | none => s
theorem reachable_runAuto {n max njobs : Nat} {o : Bool} (f : Nat) {s : St} (h : Reachable n max njobs o s) :
    Reachable n max njobs o (runAuto f s) := by
  induction f generalizing s with
  | zero => exact h
  | succ f ih =>
    unfold runAuto
    split
    · rename_i l _
      cases hs : step s l with
      | none => simp only [Option.getD_none]; exact ih h
      | some s' => simp only [Option.getD_some]; exact ih (Reachable.step h hs)
    · exact h

end TpK
