import MtblModel.PoolWriter
/-
  C13, first clause: "with a thread pool … the writer's output file is byte-identical to the one written without a pool".
  For EVERY interleaving of the caller's adds with the result handler's deliveries (ordered delivery, C13_order; everything
  delivered at the join, C13_complete): the pooled writer, once everything outstanding has been delivered, is in exactly
  the state of the sequential writer — same result code for every add, same file.
-/
namespace Mtbl

/-- the caller's part of mtbl_writer_add: result, the block cut (if any), the writer without that block's completion -/
def W.addC (w : W) (k v : Bytes) : Res × Option WBlock × W :=
  if w.m.countEntries > 0 ∧ bcmp k w.lastKey != .gt then (.failure, none, w) else
  let est := w.data.estimate + 15 + k.length + v.length
  let c := if est ≥ w.cfg.effBlockSize then
      ({ w with lastKey := shortestSep w.lastKey k, aborted := w.aborted || !sepAssertOk w.lastKey k } : W).cut
    else (none, w)
  (.success, c.1, { c.2 with lastKey := k,
                             m := { c.2.m with countEntries := c.2.m.countEntries + 1,
                                               bytesKeys := c.2.m.bytesKeys + k.length,
                                               bytesValues := c.2.m.bytesValues + v.length },
                             data := c.2.data.add { key := k, val := v } })

def optComplete (w : W) : Option WBlock → W
  | none => w
  | some b => w.complete b

theorem W.ext' {a b : W} (h1 : a.cfg = b.cfg) (h2 : a.out = b.out) (h3 : a.m = b.m) (h4 : a.data = b.data)
    (h5 : a.index = b.index) (h6 : a.lastKey = b.lastKey) (h7 : a.lastOffset = b.lastOffset)
    (h8 : a.pendingOffset = b.pendingOffset) (h9 : a.aborted = b.aborted) : a = b := by
  cases a; cases b; simp_all

/-- the compressor does not fail (as in C01 / C08_no_abort; a failure is an assertion failure in the C code) -/
def CompOK (cfg : WCfg) : Prop := ∀ raw, ∃ stored, (if cfg.compression = 0 then some raw else cfg.comp raw) = some stored

theorem PW.add_eq (p : PW) (k v : Bytes) :
    p.add k v = ((p.w.addC k v).1,
      if (p.w.addC k v).1 = .failure then p else { w := (p.w.addC k v).2.2, pending := p.pending ++ (p.w.addC k v).2.1.toList }) := by
  unfold PW.add W.addC
  by_cases hg : p.w.m.countEntries > 0 ∧ bcmp k p.w.lastKey != .gt
  · simp only [hg, and_self, if_true]
  · simp only [hg, if_false]
    split <;> simp

theorem flush_eq (w : W) (hc : CompOK w.cfg) : w.flush = optComplete w.cut.2 w.cut.1 := by
  unfold W.flush W.cut
  split
  · rfl
  · obtain ⟨stored, hst⟩ := hc w.data.finish
    simp only [optComplete, W.complete, hst]

theorem cut_cfg (w : W) : w.cut.2.cfg = w.cfg := by unfold W.cut; split <;> rfl

theorem add_eq_addC (w : W) (hc : CompOK w.cfg) (k v : Bytes) :
    w.add k v = ((w.addC k v).1, optComplete (w.addC k v).2.2 (w.addC k v).2.1) := by
  unfold W.add W.addC
  by_cases hg : w.m.countEntries > 0 ∧ bcmp k w.lastKey != .gt
  · simp only [hg, and_self, if_true]; rfl
  · simp only [hg, if_false]
    split
    · have hw1 : CompOK ({ w with lastKey := shortestSep w.lastKey k, aborted := w.aborted || !sepAssertOk w.lastKey k } : W).cfg := hc
      rw [flush_eq _ hw1]
      generalize hcut : ({ w with lastKey := shortestSep w.lastKey k, aborted := w.aborted || !sepAssertOk w.lastKey k } : W).cut = c
      have hcfg : c.2.cfg = w.cfg := by rw [← hcut, cut_cfg]
      obtain ⟨blk, w'⟩ := c
      cases blk with
      | none => rfl
      | some b =>
        obtain ⟨stored, hst⟩ := hc b.raw
        simp only at hcfg
        simp only [optComplete, W.complete, hcfg, hst]
    · rfl

theorem addC_complete (w : W) (hc : CompOK w.cfg) (b : WBlock) (k v : Bytes) :
    (w.complete b).addC k v = ((w.addC k v).1, (w.addC k v).2.1, (w.addC k v).2.2.complete b) := by
  obtain ⟨stored, hst⟩ := hc b.raw
  unfold W.addC W.complete W.cut
  simp only [hst]
  by_cases hg : w.m.countEntries > 0 ∧ bcmp k w.lastKey != .gt
  · simp only [hg, and_self, if_true, hst]
  · simp only [hg, if_false]
    split
    · split
      · simp only [hst]
      · simp only [hst]
    · simp only [hst]

theorem complete_cfg (w : W) (b : WBlock) : (w.complete b).cfg = w.cfg := by
  unfold W.complete
  simp only
  split <;> rfl

theorem foldl_complete_cfg (bs : List WBlock) (w : W) : (bs.foldl W.complete w).cfg = w.cfg := by
  induction bs generalizing w with
  | nil => rfl
  | cons b bs ih => simp only [List.foldl_cons]; rw [ih, complete_cfg]

theorem addC_foldl (bs : List WBlock) (w : W) (hc : CompOK w.cfg) (k v : Bytes) :
    (bs.foldl W.complete w).addC k v =
      ((w.addC k v).1, (w.addC k v).2.1, bs.foldl W.complete (w.addC k v).2.2) := by
  induction bs generalizing w with
  | nil => rfl
  | cons b bs ih =>
    simp only [List.foldl_cons]
    rw [ih (w.complete b) (by rw [complete_cfg]; exact hc), addC_complete w hc b k v]

theorem cut_complete (w : W) (hc : CompOK w.cfg) (b : WBlock) : (w.complete b).cut = (w.cut.1, w.cut.2.complete b) := by
  obtain ⟨stored, hst⟩ := hc b.raw
  unfold W.cut W.complete
  simp only [hst]
  split <;> simp only [hst]

theorem cut_foldl (bs : List WBlock) (w : W) (hc : CompOK w.cfg) :
    (bs.foldl W.complete w).cut = (w.cut.1, bs.foldl W.complete w.cut.2) := by
  induction bs generalizing w with
  | nil => rfl
  | cons b bs ih =>
    simp only [List.foldl_cons]
    rw [ih (w.complete b) (by rw [complete_cfg]; exact hc), cut_complete w hc b]

theorem foldl_optComplete (bs : List WBlock) (w : W) (o : Option WBlock) :
    (bs ++ o.toList).foldl W.complete w = optComplete (bs.foldl W.complete w) o := by
  cases o <;> simp [optComplete, List.foldl_append]

/-- the writer once everything outstanding has been delivered -/
def PW.settle (p : PW) : W := p.pending.foldl W.complete p.w

theorem addC_cfg (w : W) (k v : Bytes) : (w.addC k v).2.2.cfg = w.cfg := by
  unfold W.addC
  split
  · rfl
  · simp only
    split
    · exact cut_cfg _
    · rfl

/-- **an add commutes with the outstanding deliveries**: same result code, and the settled state after the pooled add is
    the sequential add applied to the settled state -/
theorem settle_add (p : PW) (hc : CompOK p.w.cfg) (k v : Bytes) :
    (p.add k v).1 = (p.settle.add k v).1 ∧ (p.add k v).2.settle = (p.settle.add k v).2 := by
  have hs : CompOK p.settle.cfg := by unfold PW.settle; rw [foldl_complete_cfg]; exact hc
  rw [PW.add_eq, add_eq_addC _ hs]
  unfold PW.settle
  rw [addC_foldl _ _ hc]
  refine ⟨rfl, ?_⟩
  simp only
  by_cases hf : (p.w.addC k v).1 = .failure
  · simp only [hf, if_true]
    have hnone : (p.w.addC k v).2.1 = none ∧ (p.w.addC k v).2.2 = p.w := by
      by_cases hg : p.w.m.countEntries > 0 ∧ bcmp k p.w.lastKey != .gt
      · unfold W.addC; simp only [hg, and_self, if_true]
      · exfalso; unfold W.addC at hf; simp only [hg, if_false] at hf; cases hf
    rw [hnone.1, hnone.2]; rfl
  · simp only [hf, if_false, foldl_optComplete]

theorem settle_deliver (p : PW) : p.deliver.settle = p.settle := by
  unfold PW.deliver PW.settle
  split
  · rfl
  · rename_i b rest h; simp [h]

theorem step_cfg (p : PW) (st : PStep) : (p.step st).w.cfg = p.w.cfg := by
  cases st with
  | add k v =>
    simp only [PW.step]; rw [PW.add_eq]
    simp only
    split
    · rfl
    · exact addC_cfg _ _ _
  | deliver =>
    simp only [PW.step, PW.deliver]
    split
    · rfl
    · exact complete_cfg _ _

/-- the adds of a step sequence, in order -/
def addsOf : List PStep → List Entry
  | [] => []
  | .add k v :: r => ⟨k, v⟩ :: addsOf r
  | .deliver :: r => addsOf r

/-- result codes of the adds of a step sequence run on the pooled writer -/
def PW.runCodes (p : PW) : List PStep → List Res
  | [] => []
  | .add k v :: r => (p.add k v).1 :: PW.runCodes (p.add k v).2 r
  | .deliver :: r => PW.runCodes p.deliver r

def PW.run (p : PW) (steps : List PStep) : PW := steps.foldl PW.step p

/-- **every interleaving of adds and (in-order) deliveries**: the add result codes are those of the sequential writer, and the
    settled state is the sequential writer's state after the same adds -/
theorem pooled_eq_sequential (p : PW) (hc : CompOK p.w.cfg) (steps : List PStep) :
    PW.runCodes p steps = (p.settle.addAll (addsOf steps)).1 ∧
    (p.run steps).settle = (p.settle.addAll (addsOf steps)).2 := by
  induction steps generalizing p with
  | nil => exact ⟨rfl, rfl⟩
  | cons st steps ih =>
    cases st with
    | add k v =>
      obtain ⟨h1, h2⟩ := settle_add p hc k v
      have hc' : CompOK (p.add k v).2.w.cfg := by
        have := step_cfg p (.add k v); simp only [PW.step] at this; rw [this]; exact hc
      obtain ⟨i1, i2⟩ := ih (p.add k v).2 hc'
      simp only [PW.runCodes, PW.run, List.foldl_cons, PW.step, addsOf, W.addAll]
      refine ⟨?_, ?_⟩
      · rw [i1, h1, h2]
      · have : (List.foldl PW.step (p.add k v).2 steps) = ((p.add k v).2.run steps) := rfl
        rw [this, i2, h2]
    | deliver =>
      have hc' : CompOK p.deliver.w.cfg := by
        have := step_cfg p .deliver; simp only [PW.step] at this; rw [this]; exact hc
      obtain ⟨i1, i2⟩ := ih p.deliver hc'
      simp only [PW.runCodes, PW.run, List.foldl_cons, PW.step, addsOf]
      rw [settle_deliver] at i1 i2
      exact ⟨i1, i2⟩

theorem finish_eq (p : PW) (hc : CompOK p.w.cfg) : p.finish = p.settle.finish := by
  have hs : CompOK p.settle.cfg := by unfold PW.settle; rw [foldl_complete_cfg]; exact hc
  unfold PW.finish W.finish
  rw [flush_eq _ hs]
  unfold PW.settle
  rw [cut_foldl _ _ hc]
  simp only [foldl_optComplete]

/-- **C13, writer clause.**  A pooled writer started on an empty file position `pre`, driven by ANY interleaving of adds and
    in-order deliveries, then finished: the add result codes and the file are exactly those of the writer without a pool. -/
theorem pooled_writer_file (cfg : WCfg) (hc : CompOK cfg) (pre : Nat) (steps : List PStep) :
    PW.runCodes { w := W.new cfg pre } steps = ((W.new cfg pre).addAll (addsOf steps)).1 ∧
    (PW.run { w := W.new cfg pre } steps).finish = Writer.run cfg pre (addsOf steps) := by
  have h := pooled_eq_sequential { w := W.new cfg pre } (by exact hc) steps
  refine ⟨h.1, ?_⟩
  have hc' : CompOK (PW.run { w := W.new cfg pre } steps).w.cfg := by
    have : ∀ (p : PW) (l : List PStep), (p.run l).w.cfg = p.w.cfg := by
      intro p l
      induction l generalizing p with
      | nil => rfl
      | cons s l ih => simp only [PW.run, List.foldl_cons]; exact (ih (p.step s)).trans (step_cfg p s)
    rw [this]; exact hc
  rw [finish_eq _ hc', h.2]
  rfl

end Mtbl
