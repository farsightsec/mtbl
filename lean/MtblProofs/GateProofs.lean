import MtblModel.Writer
import MtblProofs.OrderProofs
/-
  C08: the ordering gate of `mtbl_writer_add`.
  "mtbl_writer_add succeeds iff the key is strictly greater than the last ACCEPTED key;
   a refused add changes nothing."
-/
namespace Mtbl

/-- which adds succeed: a key is accepted iff nothing was accepted yet or it is strictly greater than the
    last accepted key -/
def gateSpec : Option Bytes → List Entry → List Res
  | _, [] => []
  | last, e :: es =>
    if last.isNone || (match last with | some l => bcmp e.key l == .gt | none => true)
    then Res.success :: gateSpec (some e.key) es else Res.failure :: gateSpec last es

/-- the accepted subsequence (same recursion as `gateSpec`) -/
def acceptedOf : Option Bytes → List Entry → List Entry
  | _, [] => []
  | last, e :: es =>
    if last.isNone || (match last with | some l => bcmp e.key l == .gt | none => true)
    then e :: acceptedOf (some e.key) es else acceptedOf last es

namespace Gate

/-- the gate condition of the specification, as a proposition -/
def accepts (last : Option Bytes) (k : Bytes) : Prop := ∀ l, last = some l → bcmp k l = .gt

theorem cond_iff (last : Option Bytes) (k : Bytes) :
    (last.isNone || (match last with | some l => bcmp k l == .gt | none => true)) = true ↔ accepts last k := by
  cases last with
  | none => simp [accepts]
  | some l => simp [accepts]

theorem gateSpec_cons (last : Option Bytes) (e : Entry) (es : List Entry) :
    gateSpec last (e :: es) =
      if last.isNone || (match last with | some l => bcmp e.key l == .gt | none => true)
      then Res.success :: gateSpec (some e.key) es else Res.failure :: gateSpec last es := rfl

theorem acceptedOf_cons (last : Option Bytes) (e : Entry) (es : List Entry) :
    acceptedOf last (e :: es) =
      if last.isNone || (match last with | some l => bcmp e.key l == .gt | none => true)
      then e :: acceptedOf (some e.key) es else acceptedOf last es := rfl

theorem gateSpec_accept {last : Option Bytes} {e : Entry} (es : List Entry) (h : accepts last e.key) :
    gateSpec last (e :: es) = Res.success :: gateSpec (some e.key) es := by
  rw [gateSpec_cons, if_pos ((cond_iff last e.key).mpr h)]

theorem gateSpec_reject {last : Option Bytes} {e : Entry} (es : List Entry) (h : ¬ accepts last e.key) :
    gateSpec last (e :: es) = Res.failure :: gateSpec last es := by
  rw [gateSpec_cons, if_neg (fun c => h ((cond_iff last e.key).mp c))]

theorem acceptedOf_accept {last : Option Bytes} {e : Entry} (es : List Entry) (h : accepts last e.key) :
    acceptedOf last (e :: es) = e :: acceptedOf (some e.key) es := by
  rw [acceptedOf_cons, if_pos ((cond_iff last e.key).mpr h)]

theorem acceptedOf_reject {last : Option Bytes} {e : Entry} (es : List Entry) (h : ¬ accepts last e.key) :
    acceptedOf last (e :: es) = acceptedOf last es := by
  rw [acceptedOf_cons, if_neg (fun c => h ((cond_iff last e.key).mp c))]

/-- the writer state after the optional block cut of `mtbl_writer_add`: that part of `W.add`, split off so that
    lemmas can be stated about it (`add_eq`) -/
def cut (w : W) (k v : Bytes) : W :=
  if w.data.estimate + 15 + k.length + v.length ≥ w.cfg.effBlockSize then
    ({ w with lastKey := shortestSep w.lastKey k, aborted := w.aborted || !sepAssertOk w.lastKey k } : W).flush
  else w

theorem add_eq (w : W) (k v : Bytes) :
    w.add k v =
      if w.m.countEntries > 0 ∧ bcmp k w.lastKey != .gt then (.failure, w) else
      (.success, { cut w k v with
                      lastKey := k,
                      m := { (cut w k v).m with countEntries := (cut w k v).m.countEntries + 1,
                                                bytesKeys := (cut w k v).m.bytesKeys + k.length,
                                                bytesValues := (cut w k v).m.bytesValues + v.length },
                      data := (cut w k v).data.add { key := k, val := v } }) := rfl

theorem flush_of_empty (w : W) (h : w.data.empty = true) : w.flush = w := by
  unfold W.flush
  rw [if_pos h]

theorem flush_of_nonempty (w : W) (h : w.data.empty = false) :
    w.flush =
      match (if w.cfg.compression = 0 then some w.data.finish else w.cfg.comp w.data.finish) with
      | none => { w with aborted := true }
      | some stored =>
        { w with data := w.data.reset, out := w.out ++ frame stored, lastOffset := w.pendingOffset,
                 pendingOffset := w.pendingOffset + (frame stored).length,
                 m := { w.m with bytesDataBlocks := w.m.bytesDataBlocks + (frame stored).length,
                                 countDataBlocks := w.m.countDataBlocks + 1 },
                 index := w.index.add { key := w.lastKey, val := venc w.pendingOffset } } := by
  unfold W.flush
  rw [if_neg (by rw [h]; decide)]
  rfl

theorem flush_countEntries (w : W) : w.flush.m.countEntries = w.m.countEntries := by
  cases h : w.data.empty
  · rw [flush_of_nonempty w h]; split <;> rfl
  · rw [flush_of_empty w h]

theorem flush_cfg (w : W) : w.flush.cfg = w.cfg := by
  cases h : w.data.empty
  · rw [flush_of_nonempty w h]; split <;> rfl
  · rw [flush_of_empty w h]

theorem flush_aborted (w : W) (hc : ∀ raw, w.cfg.compression ≠ 0 → (w.cfg.comp raw).isSome) :
    w.flush.aborted = w.aborted := by
  cases h : w.data.empty
  · rw [flush_of_nonempty w h]
    split
    · next hs =>
      by_cases hz : w.cfg.compression = 0
      · rw [if_pos hz] at hs; cases hs
      · rw [if_neg hz] at hs
        have := hc w.data.finish hz
        rw [hs] at this; cases this
    · rfl
  · rw [flush_of_empty w h]

theorem cut_countEntries (w : W) (k v : Bytes) : (cut w k v).m.countEntries = w.m.countEntries := by
  unfold cut
  split
  · rw [flush_countEntries]
  · rfl

theorem cut_cfg (w : W) (k v : Bytes) : (cut w k v).cfg = w.cfg := by
  unfold cut
  split
  · rw [flush_cfg]
  · rfl

theorem res_ne_success {r : Res} (h : r ≠ .success) : r = .failure := by
  cases r
  · exact absurd rfl h
  · rfl

end Gate

open Gate

theorem C08_gate (w : W) (k v : Bytes) :
    (w.add k v).1 = .success ↔ (w.m.countEntries = 0 ∨ bcmp k w.lastKey = .gt) := by
  rw [add_eq]
  split
  · next h =>
    simp only [bne_iff_ne] at h
    constructor
    · intro c; cases c
    · rintro (c | c)
      · omega
      · exact absurd c h.2
  · next h =>
    simp only [bne_iff_ne] at h
    constructor
    · intro _
      by_cases c : bcmp k w.lastKey = .gt
      · exact .inr c
      · exact .inl (by false_or_by_contra; exact h ⟨by omega, c⟩)
    · intro _; rfl

theorem C08_gate_failure (w : W) (k v : Bytes) :
    (w.add k v).1 = .failure ↔ (w.m.countEntries > 0 ∧ bcmp k w.lastKey ≠ .gt) := by
  constructor
  · intro h
    have hn : ¬ (w.m.countEntries = 0 ∨ bcmp k w.lastKey = .gt) := by
      rw [← C08_gate w k v, h]; simp
    constructor
    · false_or_by_contra; exact hn (.inl (by omega))
    · intro c; exact hn (.inr c)
  · intro h
    apply res_ne_success
    rw [Ne, C08_gate]
    rintro (c | c)
    · omega
    · exact h.2 c

theorem C08_refused_noop (w : W) (k v : Bytes) (h : (w.add k v).1 = .failure) : (w.add k v).2 = w := by
  rw [add_eq] at h ⊢
  split
  · rfl
  · next hn => rw [if_neg hn] at h; cases h

theorem C08_lastkey (w : W) (k v : Bytes) (h : (w.add k v).1 = .success) :
    (w.add k v).2.lastKey = k ∧ (w.add k v).2.m.countEntries = w.m.countEntries + 1 := by
  rw [add_eq] at h ⊢
  split
  · next hn => rw [if_pos hn] at h; cases h
  · exact ⟨rfl, by simp only [cut_countEntries]⟩

theorem C08_cfg (w : W) (k v : Bytes) : (w.add k v).2.cfg = w.cfg := by
  rw [add_eq]
  split
  · rfl
  · exact cut_cfg w k v

namespace Gate

/-- the invariant relating a writer state to the specification's "last accepted key" -/
def Inv (w : W) (last : Option Bytes) : Prop :=
  (w.m.countEntries = 0 ↔ last = none) ∧ (∀ l, last = some l → w.lastKey = l)

theorem Inv_new (cfg : WCfg) (pre : Nat) : Inv (W.new cfg pre) none :=
  ⟨⟨fun _ => rfl, fun _ => rfl⟩, fun _ h => by cases h⟩

theorem Inv_accepts_iff {w : W} {last : Option Bytes} (hi : Inv w last) (k v : Bytes) :
    (w.add k v).1 = .success ↔ accepts last k := by
  rw [C08_gate]
  cases last with
  | none => simp [accepts, hi.1.mpr rfl]
  | some l =>
    have h0 : w.m.countEntries ≠ 0 := fun c => by have := hi.1.mp c; cases this
    have hl : w.lastKey = l := hi.2 l rfl
    simp [accepts, h0, hl]

theorem Inv_step_accept {w : W} (k v : Bytes) (h : (w.add k v).1 = .success) :
    Inv (w.add k v).2 (some k) := by
  obtain ⟨h1, h2⟩ := C08_lastkey w k v h
  refine ⟨⟨fun c => by omega, fun c => by cases c⟩, fun l hl => ?_⟩
  cases hl
  exact h1

theorem addAll_nil (w : W) : w.addAll [] = ([], w) := rfl

theorem addAll_cons (w : W) (e : Entry) (es : List Entry) :
    w.addAll (e :: es) =
      ((w.add e.key e.val).1 :: ((w.add e.key e.val).2.addAll es).1, ((w.add e.key e.val).2.addAll es).2) := rfl

theorem history_gen (w : W) (last : Option Bytes) (es : List Entry) (hi : Inv w last) :
    (w.addAll es).1 = gateSpec last es := by
  induction es generalizing w last with
  | nil => rfl
  | cons e es ih =>
    rw [addAll_cons]
    by_cases ha : accepts last e.key
    · have hs := (Inv_accepts_iff hi e.key e.val).mpr ha
      rw [gateSpec_accept es ha, hs]
      simp only
      rw [ih _ _ (Inv_step_accept e.key e.val hs)]
    · have hs : (w.add e.key e.val).1 = .failure :=
        res_ne_success (fun c => ha ((Inv_accepts_iff hi e.key e.val).mp c))
      rw [gateSpec_reject es ha, hs, C08_refused_noop w e.key e.val hs]
      simp only
      rw [ih _ _ hi]

theorem state_gen (w : W) (last : Option Bytes) (es : List Entry) (hi : Inv w last) :
    (w.addAll es).2 = (w.addAll (acceptedOf last es)).2 := by
  induction es generalizing w last with
  | nil => rfl
  | cons e es ih =>
    by_cases ha : accepts last e.key
    · have hs := (Inv_accepts_iff hi e.key e.val).mpr ha
      rw [acceptedOf_accept es ha, addAll_cons, addAll_cons]
      simp only
      exact ih _ _ (Inv_step_accept e.key e.val hs)
    · have hs : (w.add e.key e.val).1 = .failure :=
        res_ne_success (fun c => ha ((Inv_accepts_iff hi e.key e.val).mp c))
      rw [acceptedOf_reject es ha, addAll_cons, C08_refused_noop w e.key e.val hs]
      simp only
      exact ih _ _ hi

theorem accepted_gen (last : Option Bytes) (es : List Entry) :
    StrictSorted (acceptedOf last es) ∧
      ∀ l, last = some l → ∀ e ∈ acceptedOf last es, bcmp l e.key = .lt := by
  induction es generalizing last with
  | nil => exact ⟨List.Pairwise.nil, fun _ _ _ h => by cases h⟩
  | cons e es ih =>
    by_cases ha : accepts last e.key
    · rw [acceptedOf_accept es ha]
      obtain ⟨h1, h2⟩ := ih (some e.key)
      refine ⟨StrictSorted_cons.mpr ⟨h2 e.key rfl, h1⟩, fun l hl x hx => ?_⟩
      have hle : bcmp l e.key = .lt := (bcmp_swap' e.key l).mp (ha l hl)
      rcases List.mem_cons.mp hx with rfl | hx
      · exact hle
      · exact bcmp_lt_trans hle (h2 e.key rfl x hx)
    · rw [acceptedOf_reject es ha]
      exact ih last

theorem sorted_gen (last : Option Bytes) (es : List Entry) (hs : StrictSorted es)
    (hl : ∀ l, last = some l → ∀ e ∈ es, bcmp l e.key = .lt) :
    gateSpec last es = es.map (fun _ => Res.success) ∧ acceptedOf last es = es := by
  induction es generalizing last with
  | nil => exact ⟨rfl, rfl⟩
  | cons e es ih =>
    obtain ⟨h1, h2⟩ := StrictSorted_cons.mp hs
    have ha : accepts last e.key := fun l h => (bcmp_swap l e.key).mp (hl l h e List.mem_cons_self)
    have := ih (some e.key) h2 (fun l h x hx => by cases h; exact h1 x hx)
    rw [gateSpec_accept es ha, acceptedOf_accept es ha, this.1, this.2]
    exact ⟨rfl, rfl⟩

end Gate

theorem C08_history (cfg : WCfg) (pre : Nat) (es : List Entry) :
    ((W.new cfg pre).addAll es).1 = gateSpec none es :=
  history_gen _ _ es (Inv_new cfg pre)

/-- refused adds change nothing, over whole histories: the final writer state (hence the file) only depends on
    the accepted subsequence -/
theorem C08_history_state (cfg : WCfg) (pre : Nat) (es : List Entry) :
    ((W.new cfg pre).addAll es).2 = ((W.new cfg pre).addAll (acceptedOf none es)).2 :=
  state_gen _ _ es (Inv_new cfg pre)

theorem C08_accepted_sorted (es : List Entry) : StrictSorted (acceptedOf none es) :=
  (accepted_gen none es).1

/-- the accepted subsequence is exactly the entries whose add returned success -/
theorem C08_accepted_eq (last : Option Bytes) (es : List Entry) :
    acceptedOf last es =
      (es.zip (gateSpec last es)).filterMap (fun p => if p.2 = Res.success then some p.1 else none) := by
  induction es generalizing last with
  | nil => rfl
  | cons e es ih =>
    by_cases ha : accepts last e.key
    · rw [acceptedOf_accept es ha, gateSpec_accept es ha, ih]; rfl
    · rw [acceptedOf_reject es ha, gateSpec_reject es ha, ih]; rfl

theorem C08_sorted_all_accepted (es : List Entry) (hs : StrictSorted es) :
    gateSpec none es = es.map (fun _ => Res.success) ∧ acceptedOf none es = es :=
  sorted_gen none es hs (fun _ h => by cases h)

/-! ### the separator assertion cannot fire in an accepted add -/

/-- the general form of `C08_no_sep_abort`: the only thing needed about a writer that has not accepted anything yet is that its
    `last_key` buffer is empty (then bytes_shortest_separator takes the early return).  Nothing is needed about
    the data block builder. -/
theorem C08_no_sep_abort' (w : W) (k v : Bytes) (hok : (w.add k v).1 = .success)
    (hc : ∀ raw, w.cfg.compression ≠ 0 → (w.cfg.comp raw).isSome) (ha : w.aborted = false)
    (hinv : w.m.countEntries = 0 → w.lastKey = []) : (w.add k v).2.aborted = false := by
  have hsep : sepAssertOk w.lastKey k = true := by
    rcases (C08_gate w k v).mp hok with h0 | hgt
    · rw [hinv h0]; simp [sepAssertOk, diffIndex]
    · exact sepAssertOk_of_lt ((bcmp_swap' k w.lastKey).mp hgt)
  rw [add_eq]
  split
  · exact ha
  · show (cut w k v).aborted = false
    unfold cut
    split
    · have := flush_aborted ({ w with lastKey := shortestSep w.lastKey k,
                                        aborted := w.aborted || !sepAssertOk w.lastKey k } : W) hc
      rw [this]
      simp [ha, hsep]
    · exact ha

theorem C08_no_sep_abort (w : W) (k v : Bytes) (hok : (w.add k v).1 = .success)
    (hc : ∀ raw, w.cfg.compression ≠ 0 → (w.cfg.comp raw).isSome) (ha : w.aborted = false)
    (hinv : w.m.countEntries = 0 → w.lastKey = [] ∧ w.data.empty = true) : (w.add k v).2.aborted = false :=
  C08_no_sep_abort' w k v hok hc ha (fun h => (hinv h).1)

/-- the hypothesis on `lastKey` cannot be dropped for arbitrary (unreachable) states: with nothing accepted,
    `last_key = [5]` and a block cut, adding `[3]` is accepted and trips the assertion. -/
theorem C08_no_sep_abort_needs_inv :
    ∃ (w : W) (k v : Bytes), (w.add k v).1 = .success ∧ w.aborted = false ∧ w.cfg.compression = 0 ∧
      w.m.countEntries = 0 ∧ (w.add k v).2.aborted = true :=
  ⟨{ (W.new { blockSize := 0, minBlockSize := 0 } 0) with lastKey := [5] }, [3], [], by decide, rfl, rfl, rfl,
    by decide⟩

/-- whole histories from a fresh writer: if the compressor never fails, no assertion fires -/
theorem C08_no_abort_history (cfg : WCfg) (pre : Nat) (es : List Entry)
    (hc : ∀ raw, cfg.compression ≠ 0 → (cfg.comp raw).isSome) :
    ((W.new cfg pre).addAll es).2.aborted = false := by
  suffices h : ∀ (w : W), w.cfg = cfg → w.aborted = false → (w.m.countEntries = 0 → w.lastKey = []) →
      (w.addAll es).2.aborted = false from h _ rfl rfl (fun _ => rfl)
  induction es with
  | nil => intro w _ ha _; exact ha
  | cons e es ih =>
    intro w hcfg ha hinv
    rw [addAll_cons]
    simp only
    cases hr : (w.add e.key e.val).1 with
    | failure =>
      rw [C08_refused_noop w e.key e.val hr]
      exact ih w hcfg ha hinv
    | success =>
      apply ih
      · rw [C08_cfg, hcfg]
      · exact C08_no_sep_abort' w e.key e.val hr (by rw [hcfg]; exact hc) ha hinv
      · intro h0
        have := (C08_lastkey w e.key e.val hr).2
        omega

end Mtbl
