import MtblProofs.TpKDead
/-
  The k-client pool machine: a PROGRESS MEASURE.  In every reachable state every real step of any thread strictly decreases
  `Phi` and a spurious wake-up increases it by at most one: along EVERY schedule the number of real steps is at most
  `Phi (init …)` plus the number of spurious wake-ups, and with `no_deadlock` every maximal execution with finitely many
  spurious wake-ups ends with the owner back from `threadpool_destroy`.
  `Phi = 8 · (steps still owed by owner, callers, handlers, workers) + (threads awake at a loop head)`: a real step lowers
  what the acting thread owes by at least one (−8) or puts it to sleep at its loop head (−1); the signal that ends a
  critical section wakes at most two threads (+2), a spurious wake-up one (+1).
-/
namespace TpK

def wP (th : Thr) : Nat := match th.pc with
  | .top _ => if th.running then (if th.cb.isSome then 3 + (if th.rq.isSome then 4 else 0) else 2) else 0
  | .gotJob => if th.cb.isSome then 2 + (if th.rq.isSome then 4 else 0) else 1
  | .selfEnq _ => 5
  | .doneOrd => 1
  | .exited => 0
def wW (th : Thr) : Nat := if th.pc = .top false then 1 else 0
def wPot (th : Thr) : Nat := 8 * wP th + wW th

def cPf (pc : CPc) (njobs nextJob : Nat) : Nat := match pc with
  | .idle => 16 * njobs + 6
  | .start => 16 * (njobs - nextJob) + 6
  | .mkH => 16 * (njobs - nextJob) + 5
  | .next _ => 16 * (njobs - nextJob) + 4
  | .create => 16 * (njobs - nextJob) + 3
  | .assign _ => 16 * (njobs - nextJob) + 2
  | .enqueue _ => 16 * (njobs - nextJob) - 6
  | .finish => 3
  | .joinH => 2
  | .done => 0
def cWf (pc : CPc) : Nat := match pc with | .next false => 1 | _ => 0
def hPf (hpc : HPc) (qlen : Nat) : Nat := match hpc with
  | .deq _ => 4 * qlen + 1
  | .waitRes _ _ => 4 * qlen + 4
  | .giveBack _ _ => 4 * qlen + 3
  | .callback _ => 4 * qlen + 2
  | .exited => 0
def hWf (hpc : HPc) : Nat := match hpc with | .deq false | .waitRes _ false => 1 | _ => 0
def clPot (njobs : Nat) (cl : Client) : Nat :=
  8 * (cPf cl.pc njobs cl.nextJob + hPf cl.hpc cl.queue.length) + cWf cl.pc + hWf cl.hpc

def oPf (o : OPc) (n max count : Nat) : Nat := match o with
  | .spawn i => (n - i) + n + (5 * max + 3)
  | .joinC i => (n - i) + (5 * max + 2)
  | .destroy _ => 5 * count + 1
  | .kill _ => 5 * count
  | .joinW _ => 5 * count - 3
  | .done => 0
def oWf (o : OPc) : Nat := match o with | .destroy false => 1 | _ => 0

def Phi (s : St) : Nat :=
  8 * oPf s.opc s.cl.size s.max s.count + oWf s.opc + sumA s.cl (clPot s.njobs) + sumA s.thr wPot

theorem Phi_mk (max njobs : Nat) (ordered : Bool) (cl : Array Client) (thr : Array Thr) (idle : List Nat) (count : Nat)
    (opc : OPc) :
    Phi { max, njobs, ordered, cl, thr, idle, count, opc } =
      8 * oPf opc cl.size max count + oWf opc + sumA cl (clPot njobs) + sumA thr wPot := rfl

theorem Phi_setCl (s : St) (c : Nat) (f : Client → Client) (h : c < s.cl.size) :
    Phi (setCl s c f) + clPot s.njobs s.cl[c]! = Phi s + clPot s.njobs (f s.cl[c]!) := by
  have := sumA_modify s.cl c f (clPot s.njobs) h
  simp only [Phi, setCl_opc, setCl_thr, setCl_cl, setCl_max, setCl_count, setCl_njobs, Array.size_modify]
  omega

theorem Phi_setThr (s : St) (t : Nat) (f : Thr → Thr) (h : t < s.thr.size) :
    Phi (setThr s t f) + wPot s.thr[t]! = Phi s + wPot (f s.thr[t]!) := by
  have := sumA_modify s.thr t f wPot h
  simp only [Phi, setThr_opc, setThr_cl, setThr_thr, setThr_max, setThr_count, setThr_njobs]
  omega

theorem Phi_setThr_oob (s : St) (t : Nat) (f : Thr → Thr) (h : ¬ t < s.thr.size) : Phi (setThr s t f) = Phi s := by
  simp only [Phi, setThr_opc, setThr_cl, setThr_thr, setThr_max, setThr_count, setThr_njobs, sumA_modify_oob _ _ _ _ h]

theorem Phi_setCl_oob (s : St) (c : Nat) (f : Client → Client) (h : ¬ c < s.cl.size) : Phi (setCl s c f) = Phi s := by
  simp only [Phi, setCl_opc, setCl_thr, setCl_cl, setCl_max, setCl_count, setCl_njobs, sumA_modify_oob _ _ _ _ h,
    Array.size_modify]

/-! ### a signal wakes at most one sleeper on each side -/
theorem wPot_wakeW (th : Thr) : wPot (wakeW th) ≤ wPot th + 1 := by
  unfold wakeW
  split
  · rename_i h; simp [wPot, wP, wW, h]
  · omega

theorem clPot_wakeDeq (n : Nat) (cl : Client) : clPot n (wakeDeq cl) ≤ clPot n cl + 1 := by
  unfold wakeDeq
  split
  · rename_i h; simp [clPot, hPf, hWf, h]
  · omega

theorem clPot_wakeH (n : Nat) (o : Bool) (t : Nat) (cl : Client) : clPot n (wakeH t cl) ≤ clPot n cl + clCount o t cl := by
  unfold wakeH
  split
  · rename_i t' h
    split
    · rename_i e; subst e
      simp [clPot, hPf, hWf, h, clCount, clView, List.count_append]; omega
    · omega
  · omega

theorem list_sum_map_le {α : Type} (l : List α) (g : α → α) (f h : α → Nat) (hf : ∀ x, f (g x) ≤ f x + h x) :
    ((l.map g).map f).sum ≤ (l.map f).sum + (l.map h).sum := by
  induction l with
  | nil => simp
  | cons a l ih => simp only [List.map_cons, List.sum_cons]; have := hf a; omega

theorem sumA_map_le {α : Type} (a : Array α) (g : α → α) (f h : α → Nat) (hf : ∀ x, f (g x) ≤ f x + h x) :
    sumA (a.map g) f ≤ sumA a f + sumA a h := by
  simp only [sumA, Array.toList_map]
  exact list_sum_map_le _ g f h hf

theorem Phi_signalRq (s : St) (c : Nat) : Phi (signalRq s c) ≤ Phi s + 1 := by
  by_cases hc : c < s.cl.size
  · have := Phi_setCl s c wakeDeq hc
    have h2 := clPot_wakeDeq s.njobs s.cl[c]!
    rw [signalRq_eq]; omega
  · rw [signalRq_eq, Phi_setCl_oob _ _ _ hc]; omega

theorem Phi_signalPool (s : St) (k : Nat) : Phi (signalPool s k) ≤ Phi s + 1 := by
  rcases signalPool_cases s k with ⟨h, e⟩ | ⟨_, e⟩ | ⟨c, _, hp, e⟩ <;> rw [e]
  · rw [Phi_mk]; simp only [Phi, h, oPf, oWf]; omega
  · omega
  · by_cases hc : c < s.cl.size
    · have := Phi_setCl s c (fun cl => { cl with pc := .next false }) hc
      simp only [clPot, hp, cPf, cWf] at this
      omega
    · rw [Phi_setCl_oob _ _ _ hc]; omega

/-- at most the worker and the one handler that may wait for it wake up: `t` is in one place at most -/
theorem Phi_signalThr (s : St) (t : Nat) (hE : Excl (signalThr s t)) : Phi (signalThr s t) ≤ Phi s + 2 := by
  have hocc : sumA s.cl (clCount s.ordered t) ≤ 1 := by
    have := hE.le1 t
    rw [occ_signalThr] at this
    simp only [occ] at this
    omega
  have h1 : signalThr s t = { (setThr s t wakeW) with cl := s.cl.map (wakeH t) } := rfl
  rw [h1, Phi_mk]
  have hcl := sumA_map_le s.cl (wakeH t) (clPot s.njobs) (clCount s.ordered t) (clPot_wakeH s.njobs s.ordered t)
  have hthr : sumA (s.thr.modify t wakeW) wPot ≤ sumA s.thr wPot + 1 := by
    by_cases ht : t < s.thr.size
    · have := sumA_modify s.thr t wakeW wPot ht
      have := wPot_wakeW s.thr[t]!
      omega
    · rw [sumA_modify_oob _ _ _ _ ht]; omega
  simp only [setThr_opc, setThr_thr, setThr_max, setThr_count, setThr_njobs, Array.size_map, Phi] at hthr ⊢
  omega


theorem getOpt_lt {s : St} {c : Nat} {x : Client} (hx : s.cl[c]? = some x) : c < s.cl.size := by
  apply Classical.byContradiction; intro hn
  have : s.cl[c]? = none := by grind
  rw [this] at hx; cases hx


theorem SIdle.wP {th : Thr} (h : SIdle th) : wP th = 0 := by
  obtain ⟨hp, hr, _⟩ := h
  cases hpc : th.pc <;> simp [hpc, isTop] at hp
  simp [TpK.wP, hpc, hr]

theorem hPf_succ (h : HPc) (n : Nat) : hPf h (n + 1) ≤ hPf h n + 4 := by
  unfold hPf; split <;> omega

/-- while a caller is at work the owner has not reached threadpool_destroy: its share does not depend on the count -/
theorem oPf_count {s : St} (L : Live s) {c : Nat} (hc : s.cl[c]!.pc ≠ .done) (hi : s.cl[c]!.pc ≠ .idle) (k : Nat) :
    oPf s.opc s.cl.size s.max k = oPf s.opc s.cl.size s.max s.count := by
  cases ho : s.opc with
  | spawn i => rfl
  | joinC i => rfl
  | _ =>
    have := L.wk.over (by rw [ho]; rfl) c
    rcases this with h | h
    · exact absurd h hc
    · exact absurd h hi

theorem Phi_setThr_same (s : St) (t : Nat) (f : Thr → Thr) (hf : wPot (f s.thr[t]!) = wPot s.thr[t]!) :
    Phi (setThr s t f) = Phi s := by
  by_cases h : t < s.thr.size
  · have := Phi_setThr s t f h; omega
  · exact Phi_setThr_oob s t f h

theorem phi_spurious {s s' : St} {w : Who} (hs : Step s (.spurious w) s') : Phi s' ≤ Phi s + 1 := by
  cases hs with
  | spOwner ho => rw [Phi_mk]; simp only [Phi, ho, oPf, oWf]; omega
  | @spClient c hc hp =>
    have := Phi_setCl s c (fun cl => { cl with pc := .next false }) hc
    simp only [clPot, hp, cPf, cWf] at this
    omega
  | @spDeq c hc hp =>
    have := Phi_setCl s c (fun cl => { cl with hpc := .deq false }) hc
    simp only [clPot, hp, hPf, hWf] at this
    omega
  | @spWait c t hc hp =>
    have := Phi_setCl s c (fun cl => { cl with hpc := .waitRes t false }) hc
    simp only [clPot, hp, hPf, hWf] at this
    omega
  | @spWorker t ht hp =>
    have := Phi_setThr s t (fun th => { th with pc := .top false }) ht
    simp only [wPot, wP, wW, hp] at this
    simp at this
    omega

/-! ### the potential drops with the share of the acting caller, handler or worker -/

theorem Phi_caller {s : St} {c : Nat} (f : Client → Client) (hc : c < s.cl.size) (d : Nat)
    (h : 8 * cPf (f s.cl[c]!).pc s.njobs (f s.cl[c]!).nextJob + cWf (f s.cl[c]!).pc + d ≤
      8 * cPf s.cl[c]!.pc s.njobs s.cl[c]!.nextJob + cWf s.cl[c]!.pc)
    (e1 : (f s.cl[c]!).hpc = s.cl[c]!.hpc := by rfl) (e2 : (f s.cl[c]!).queue = s.cl[c]!.queue := by rfl) :
    Phi (setCl s c f) + d ≤ Phi s := by
  have := Phi_setCl s c f hc
  simp only [clPot, e1, e2] at this
  omega

theorem Phi_handler {s : St} {c : Nat} (f : Client → Client) (hc : c < s.cl.size) (d : Nat)
    (h : 8 * hPf (f s.cl[c]!).hpc (f s.cl[c]!).queue.length + hWf (f s.cl[c]!).hpc + d ≤
      8 * hPf s.cl[c]!.hpc s.cl[c]!.queue.length + hWf s.cl[c]!.hpc)
    (e1 : (f s.cl[c]!).pc = s.cl[c]!.pc := by rfl) (e2 : (f s.cl[c]!).nextJob = s.cl[c]!.nextJob := by rfl) :
    Phi (setCl s c f) + d ≤ Phi s := by
  have := Phi_setCl s c f hc
  simp only [clPot, e1, e2] at this
  omega

theorem Phi_worker {s : St} {t : Nat} (f : Thr → Thr) (ht : t < s.thr.size) (d : Nat)
    (h : wPot (f s.thr[t]!) + d ≤ wPot s.thr[t]!) : Phi (setThr s t f) + d ≤ Phi s := by
  have := Phi_setThr s t f ht
  omega

/-- one more thread in the queue costs the handler four more steps -/
theorem Phi_push {s : St} (c t : Nat) : Phi (setCl s c fun cl => { cl with queue := cl.queue ++ [t] }) ≤ Phi s + 32 := by
  by_cases hc : c < s.cl.size
  · have := Phi_setCl s c (fun cl => { cl with queue := cl.queue ++ [t] }) hc
    have hq := hPf_succ s.cl[c]!.hpc s.cl[c]!.queue.length
    simp only [clPot, List.length_append, List.length_singleton] at this
    omega
  · rw [Phi_setCl_oob _ _ _ hc]; omega

theorem wPot_idle {th : Thr} (h : SIdle th) : wPot th = wW th := by
  simp only [wPot, h.wP]; omega

/-- The numerals below are 8 × differences of the weights in `cPf`, `hPf`, `wP`, `oPf` (64: a caller from `assign` to
    `enqueue`; 56: the most a thread given a job owes; 39: a worker from `selfEnq` to its loop head; 24: the owner from `kill`
    to `joinW`; 16: a thread told to exit). -/
theorem phi_run {s s' : St} {w : Who} {k : Nat} (L : Live s) (hb : s.count ≤ s.max) (hE' : Excl s')
    (hs : Step s (.run w k) s') : Phi s' < Phi s := by
  cases hs with
  | @spawn i _ ho =>
    rw [Phi_mk]
    have hidle := L.wk.fresh i i ho (Nat.le_refl _)
    obtain ⟨hq, hh, _⟩ := (L.cl i).idleRec hidle
    have hlt := (L.phs.spawnLt i ho).1
    have := sumA_modify s.cl i (fun _ => ({ pc := .start } : Client)) (clPot s.njobs) hlt
    simp only [clPot, hidle, hq, hh, cPf, cWf, hPf, hWf] at this
    simp only [setCl_thr, setCl_cl, setCl_max, setCl_count, setCl_njobs, Array.size_modify, Phi, ho]
    simp at this
    split <;> simp only [oPf, oWf] <;> omega
  | @joinC i _ ho =>
    -- after the last join the owner's share goes from `5·max + 2` to `5·count + 1`: this is where `hb` is needed
    rw [Phi_mk]
    have := L.phs.joinLt i ho
    simp only [Phi, ho]
    split <;> simp only [oPf, oWf] <;> omega
  | destroyDone ho | destroySleep ho | destroyTake ho => rw [Phi_mk]; simp only [Phi, ho, oPf, oWf]; omega
  | @kill _ t ho =>
    have ht : t < s.thr.size := (L.excl.owner (by simp [ho])).2.2.2
    have hI := (L.sh t).kill ho
    have hc : 1 ≤ s.count := by
      have := L.tot
      simp only [Tot, T, ho, oHand_kill, List.length_singleton] at this; omega
    generalize hg : (fun th : Thr => ({ th with running := true } : Thr)) = g at hE'
    have hsig := Phi_signalThr { setThr s t g with opc := .joinW t } t hE'
    have hw : wPot (g s.thr[t]!) = wPot s.thr[t]! + 16 := by
      rw [wPot_idle hI]
      subst hg
      obtain ⟨hp, _, hcb, _⟩ := hI
      cases hpc : s.thr[t]!.pc <;> simp [hpc, isTop] at hp
      simp [wPot, wP, wW, hpc, hcb]; omega
    have hmod := Phi_setThr s t g ht
    have hX : Phi ({ setThr s t g with opc := .joinW t } : St) + 24 = Phi (setThr s t g) := by
      rw [Phi_mk]
      simp only [Phi, setThr_opc, setThr_cl, setThr_thr, setThr_count, setThr_njobs, ho, oPf, oWf]
      omega
    omega
  | joinW ho =>
    -- `oPf (.joinW _) = 5·count − 3` is a truncated subtraction: the thread being joined is counted (`Tot`)
    have hc : 1 ≤ s.count := by
      have := L.tot
      simp only [Tot, T, ho, oHand_joinW, List.length_singleton] at this; omega
    rw [Phi_mk]; simp only [Phi, ho, oPf, oWf]; omega
  | start hc hp | mkH hc hp | nextDone hc hp | nextSleep hc hp | joinH hc hp =>
    exact Phi_caller _ hc 1 (by simp only [hp, cPf, cWf]; omega)
  | @enqueueUnord c _ _ hc hp =>
    -- `cPf (.enqueue _) = 16·(njobs − nextJob) − 6` is a truncated subtraction: `nextJob < njobs` by `Ph.le`
    have hle := (L.ph c).le
    simp only [hp, pend] at hle
    exact Phi_caller _ hc 1 (by simp only [hp, cPf, cWf]; omega)
  | @nextTake _ _ _ rest hc hp =>
    exact Phi_caller (s := { s with idle := rest }) _ hc 1 (by simp only [hp, cPf, cWf]; omega)
  | @nextGrow c _ hc hp =>
    have := Phi_caller (s := { s with count := s.count + 1 }) (fun cl => { cl with pc := .create }) hc 1
      (by simp only [hp, cPf, cWf]; omega)
    have hX : Phi { s with count := s.count + 1 } = Phi s := by
      rw [Phi_mk]
      simp only [Phi, oPf_count L (c := c) (by simp [hp]) (by simp [hp]) (s.count + 1)]
    omega
  | @create c _ hc hp =>
    have := Phi_caller (s := { s with thr := s.thr.push {} }) (fun cl => { cl with pc := .assign s.thr.size }) hc 2
      (by simp only [hp, cPf, cWf]; omega)
    have hw : wPot ({} : Thr) = 1 := by decide
    have hX : Phi { s with thr := s.thr.push {} } = Phi s + 1 := by
      rw [Phi_mk]; simp only [Phi, sumA_push, hw]; omega
    omega
  | @assign c _ t hc hp =>
    generalize hf : (fun th : Thr =>
      ({ th with rq := if s.ordered then none else some c, cb := some s.cl[c]!.nextJob, running := true } : Thr)) = f at hE'
    have ht := L.excl.client_lt (mem_view_assign (o := s.ordered) hp)
    have hI := ((L.sh t).cl c).assign hp
    have hlt := (L.ph c).lt (Or.inr ⟨t, hp⟩)
    have hsig := Phi_signalThr (setCl (setThr s t f) c fun cl => { cl with pc := .enqueue t }) t hE'
    have h1 := Phi_caller (s := setThr s t f) (fun cl => { cl with pc := .enqueue t }) (by simpa using hc) 64
      (by simp only [setThr_cl, setThr_njobs, hp, cPf, cWf]; omega)
    have h3 := Phi_setThr s t f ht
    have h5 : wPot (f s.thr[t]!) ≤ wPot s.thr[t]! + 56 := by
      rw [wPot_idle hI]
      subst hf
      obtain ⟨hp', _⟩ := hI
      cases hpc : s.thr[t]!.pc <;> simp [hpc, isTop] at hp'
      simp only [wPot, wP, wW, hpc]; simp; split <;> omega
    omega
  | @enqueueOrd c _ t hc hp =>
    have hle := (L.ph c).le
    have := Phi_setCl s c (fun cl =>
      { cl with nthreads := cl.nthreads + 1, queue := cl.queue ++ [t], pc := .next false, nextJob := cl.nextJob + 1 }) hc
    have hq := hPf_succ s.cl[c]!.hpc s.cl[c]!.queue.length
    have hsig := Phi_signalRq (setCl s c fun cl =>
      { cl with nthreads := cl.nthreads + 1, queue := cl.queue ++ [t], pc := .next false, nextJob := cl.nextJob + 1 }) c
    simp only [clPot, hp, cPf, cWf, pend, List.length_append, List.length_singleton] at this hle
    omega
  | @finish c _ hc hp =>
    have := Phi_caller (fun cl => { cl with finished := true, pc := .joinH }) hc 2 (by simp only [hp, cPf, cWf]; omega)
    have h2 := Phi_signalRq (setCl s c fun cl => { cl with finished := true, pc := .joinH }) c
    omega
  | @wGo t _ ht hp hr =>
    refine Phi_worker _ ht 1 ?_
    simp only [wPot, wP, wW, hp, hr]
    cases s.thr[t]!.cb <;> cases s.thr[t]!.rq <;> simp
  | wSleep ht hp hr | wExit ht hp hr => exact Phi_worker _ ht 1 (by simp [wPot, wP, wW, hp, hr])
  | wRunUnord ht hp hcb hr | wRunOrd ht hp hcb hr => exact Phi_worker _ ht 1 (by simp [wPot, wP, wW, hp, hcb, hr])
  | @selfEnq t _ c ht hp =>
    have h3 := Phi_worker (fun th => { th with pc := .top false }) ht 39 (by simp [wPot, wP, wW, hp, (L.sh.selfEnq_rq hp).2.1])
    have h1 := Phi_push (s := setThr s t fun th => { th with pc := .top false }) c t
    have hsig := Phi_signalRq (setCl (setThr s t fun th => { th with pc := .top false }) c
      (fun cl => { cl with queue := cl.queue ++ [t] })) c
    omega
  | @doneOrd t _ ht hp =>
    have h3 := Phi_worker (fun th => { th with running := false, pc := .top false }) ht 7 (by simp [wPot, wP, wW, hp])
    have hsig := Phi_signalThr (setThr s t fun th => { th with running := false, pc := .top false }) t hE'
    omega
  | deqTake hc _ hp hq => exact Phi_handler _ hc 1 (by simp only [hp, hq, hPf, hWf, List.length_cons]; omega)
  | deqExit hc _ hp hq | deqSleep hc _ hp hq => exact Phi_handler _ hc 1 (by simp only [hp, hq, hPf, hWf]; omega)
  | waitSleep hc _ hp | callback hc _ hp => exact Phi_handler _ hc 1 (by simp only [hp, hPf, hWf]; omega)
  | @waitTake c _ t hc _ hp =>
    have h1 := Phi_handler (s := setThr s t fun th => { th with res := none })
      (fun cl => { cl with hpc := .giveBack t (s.thr[t]!).res }) (by simpa using hc) 1
      (by simp only [setThr_cl, hp, hPf, hWf]; omega)
    have h3 := Phi_setThr_same s t (fun th => { th with res := none }) (by simp [wPot, wP, wW])
    omega
  | @giveBack c k t r hc _ hp =>
    have h1 := Phi_handler (s := { s with idle := t :: s.idle }) (fun cl => { cl with hpc := .callback r }) hc 2
      (by simp only [hp, hPf, hWf]; omega)
    have hX : Phi { s with idle := t :: s.idle } = Phi s := rfl
    have hsig := Phi_signalPool (setCl { s with idle := t :: s.idle } c (fun cl => { cl with hpc := .callback r })) k
    omega

theorem phi_step {s s' : St} {l : Lbl} (L : Live s) (hb : s.count ≤ s.max) (hs : step s l = some s') :
    match l with
    | .run _ _ => Phi s' < Phi s
    | .spurious _ => Phi s' ≤ Phi s + 1 := by
  cases l with
  | spurious w => exact phi_spurious (.of_step hs)
  | run w k => exact phi_run L hb (L.excl.of_leF (leF_step hs)) (.of_step hs)

def runSched (s : St) : List Lbl → St
  | [] => s
  | l :: ls => match step s l with
    | some s' => runSched s' ls
    | none => runSched s ls

/-- (real steps taken, spurious wake-ups taken) along a schedule; labels that are not enabled are skipped -/
def stepCount (s : St) : List Lbl → Nat × Nat
  | [] => (0, 0)
  | l :: ls => match step s l with
    | none => stepCount s ls
    | some s' => match l with
      | .run _ _ => ((stepCount s' ls).1 + 1, (stepCount s' ls).2)
      | .spurious _ => ((stepCount s' ls).1, (stepCount s' ls).2 + 1)

theorem steps_bounded_of {n max njobs : Nat} {o : Bool} {s : St} (hn : 1 ≤ n) (hr : Reachable n max njobs o s)
    (ls : List Lbl) : (stepCount s ls).1 ≤ Phi s + (stepCount s ls).2 := by
  induction ls generalizing s with
  | nil => simp [stepCount]
  | cons l ls ih =>
    unfold stepCount
    cases hs : step s l with
    | none => simpa using ih hr
    | some s' =>
      have hd := phi_step (live_reachable hn hr) (bound_reachable hr) hs
      have := ih (.step hr hs)
      cases l with
      | run w k => simp only at hd ⊢; omega
      | spurious w => simp only at hd ⊢; omega

theorem Phi_init (n max njobs : Nat) (o : Bool) :
    Phi (init n max njobs o) = n * (128 * njobs + 73) + 40 * max + 24 := by
  have h1 : clPot njobs ({} : Client) = 128 * njobs + 57 := by
    simp only [clPot, cPf, cWf, hPf, hWf, List.length_nil]; omega
  have h2 : sumA (Array.replicate n ({} : Client)) (clPot njobs) = n * (128 * njobs + 57) := by
    simp only [sumA, Array.toList_replicate, List.map_replicate, h1, List.sum_replicate_nat]
  show 8 * oPf (.spawn 0) (Array.replicate n ({} : Client)).size max 0 + oWf (.spawn 0) +
    sumA (Array.replicate n ({} : Client)) (clPot njobs) + sumA (#[] : Array Thr) wPot = _
  rw [h2]
  simp only [oPf, oWf, Array.size_replicate, sumA, Nat.sub_zero]
  simp [Nat.mul_add]; omega

theorem steps_bounded {n max njobs : Nat} {o : Bool} (hn : 1 ≤ n) (ls : List Lbl) :
    (stepCount (init n max njobs o) ls).1 ≤ n * (128 * njobs + 73) + 40 * max + 24 + (stepCount (init n max njobs o) ls).2 := by
  have := steps_bounded_of hn (Reachable.init (nclients := n) (max := max) (njobs := njobs) (ordered := o)) ls
  rw [Phi_init] at this; exact this

theorem reachable_runSched {n max njobs : Nat} {o : Bool} {s : St} (hr : Reachable n max njobs o s) (ls : List Lbl) :
    Reachable n max njobs o (runSched s ls) := by
  induction ls generalizing s with
  | nil => exact hr
  | cons l ls ih =>
    unfold runSched
    cases hs : step s l with
    | none => exact ih hr
    | some s' => exact ih (.step hr hs)

theorem can_finish {n max njobs : Nat} {o : Bool} {s : St} (hn : 1 ≤ n) (hm : 1 ≤ max) (hr : Reachable n max njobs o s) :
    ∃ ls : List Who, ls.length ≤ Phi s ∧ (runSched s (ls.map fun w => .run w 0)).opc = .done := by
  generalize hk : Phi s = k
  induction k using Nat.strongRecOn generalizing s with
  | _ k ih =>
    by_cases hd : s.opc = .done
    · exact ⟨[], by simp, by simpa [runSched] using hd⟩
    · obtain ⟨w, hw⟩ := no_deadlock hr hn hm hd
      obtain ⟨s', hs⟩ := Option.isSome_iff_exists.mp hw
      have hdec := phi_step (live_reachable hn hr) (bound_reachable hr) hs
      simp only at hdec
      obtain ⟨ls, hl, hfin⟩ := ih (Phi s') (by omega) (.step hr hs) rfl
      refine ⟨w :: ls, by simp; omega, ?_⟩
      simp only [List.map_cons, runSched, hs]
      exact hfin



@[simp] theorem signalPool_opc_done (s : St) (k : Nat) : ((signalPool s k).opc = .done) = (s.opc = .done) := by
  unfold signalPool; split
  · rename_i h; simp [h]
  · dsimp only; split <;> simp

theorem donecount_step {s s' : St} {l : Lbl} (hW : Wk s) (h : s.opc = .done → s.count = 0) (hs : step s l = some s') :
    s'.opc = .done → s'.count = 0 := by
  cases Step.of_step hs with
  | @nextGrow c _ _ hp =>
    -- the owner is done only after every caller has returned
    intro hd
    have hd' : s.opc = .done := hd
    rcases hW.over (by rw [hd']; rfl) c with e | e <;> rw [hp] at e <;> cases e
  | destroyDone _ h0 => exact fun _ => h0
  | spawn | joinC => intro hd; split at hd <;> cases hd
  | destroySleep | destroyTake | joinW | spOwner => intro hd; cases hd
  | kill => simp
  | _ => simpa using h

theorem donecount_reachable {n max njobs : Nat} {o : Bool} {s : St} (hr : Reachable n max njobs o s) :
    s.opc = .done → s.count = 0 := by
  induction hr with
  | init => intro h; cases h
  | step hr' hs ih => exact donecount_step (wk_reachable hr') ih hs

/-- a reachable state in which nobody can take a real step is the final one -/
theorem maximal_complete {n max njobs : Nat} {o : Bool} {s : St} (hn : 1 ≤ n) (hm : 1 ≤ max)
    (hr : Reachable n max njobs o s) (hq : ∀ w, (step s (.run w 0)).isSome = false) :
    s.opc = .done ∧ s.count = 0 ∧ s.idle = [] ∧
    ∀ c : Nat, c < n →
      s.cl[c]!.pc = .done ∧ (o = true → s.cl[c]!.delivered = (List.range njobs).map some) ∧
      (o = false → s.cl[c]!.delivered.Perm ((List.range njobs).map some)) := by
  have hd : s.opc = .done := by
    apply Classical.byContradiction; intro hx
    obtain ⟨w, hw⟩ := no_deadlock hr hn hm hx
    rw [hq w] at hw; cases hw
  have L := live_reachable hn hr
  obtain ⟨_, hsz, hord, hnj⟩ := params_reachable hr
  have hcount : s.count = 0 := donecount_reachable hr hd
  have hidle : s.idle = [] := by
    have := L.tot
    simp only [Tot, T, hcount] at this
    exact List.eq_nil_of_length_eq_zero (by omega)
  refine ⟨hd, hcount, hidle, fun c hc => ?_⟩
  have hpc : s.cl[c]!.pc = .done := by
    rcases L.wk.over (by rw [hd]; rfl) c with hx | hx
    · exact hx
    · exact absurd hx (L.phs.started (Or.inl (by rw [hd]; rfl)) c (by omega))
  refine ⟨hpc, fun ho => ?_, fun ho => ?_⟩
  · subst ho
    have := complete_reachable hr hord c hpc
    rw [hnj] at this; exact this
  · subst ho
    have := unordered_complete hr hord c hpc
    rw [hnj] at this; exact this

/-- END TO END (`C13_kclient_maximal`): at the end of a maximal schedule from the initial state -/
theorem maximal_run_complete {n max njobs : Nat} {o : Bool} (hn : 1 ≤ n) (hm : 1 ≤ max) (ls : List Lbl)
    (hq : ∀ w, (step (runSched (init n max njobs o) ls) (.run w 0)).isSome = false) :
    (runSched (init n max njobs o) ls).opc = .done ∧ (runSched (init n max njobs o) ls).count = 0 ∧
    (runSched (init n max njobs o) ls).idle = [] ∧
    ∀ c : Nat, c < n →
      (runSched (init n max njobs o) ls).cl[c]!.pc = .done ∧
      (o = true → (runSched (init n max njobs o) ls).cl[c]!.delivered = (List.range njobs).map some) ∧
      (o = false → (runSched (init n max njobs o) ls).cl[c]!.delivered.Perm ((List.range njobs).map some)) :=
  maximal_complete hn hm (reachable_runSched .init ls) hq

end TpK
